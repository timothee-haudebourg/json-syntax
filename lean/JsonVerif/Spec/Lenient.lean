import JsonVerif.Spec.Grammar
/-!
# What the lenient parse options mean (specification of C12, string level)

`LBody o t cs`: the string body `t` denotes the characters `cs` under the option record `o`.
It extends `GBody` (every strict element keeps its strict meaning — in particular a high surrogate
escape directly followed by a low surrogate escape is still ONE scalar value) by exactly two
element kinds, each controlled by exactly one option, each denoting one U+FFFD:

* `loneHigh` — a high-surrogate escape that is not directly followed by a low-surrogate escape;
  allowed iff `accept_truncated_surrogate_pair`;
* `loneLow`  — a low-surrogate escape not preceded by a high-surrogate escape (the only `\uXXXX`
  that is not a Unicode scalar value on its own); allowed iff `accept_invalid_codepoints`.
-/
namespace JsonVerif

/-- the text starts with a low-surrogate escape -/
def StartsLow (l : List Char) : Prop :=
  ∃ a b c d lo r, l = '\\' :: 'u' :: a :: b :: c :: d :: r ∧ hexCp a b c d = some lo ∧ isLow lo = true

inductive LBody (o : ParseOptions) : List Char → List Char → Prop
  | nil : LBody o [] []
  | elem (t : List Char) (c : Char) (ts cs : List Char) : GElem t c → LBody o ts cs →
      LBody o (t ++ ts) (c :: cs)
  /-- `¬ StartsLow ts`: a high-surrogate escape directly followed by a low-surrogate escape is read as
      a pair (`GElem.pair`) and in no other way; so a `loneLow` never comes right after a high one -/
  | loneHigh (a b c d : Char) (hi : Nat) (ts cs : List Char) : o.trunc = true →
      hexCp a b c d = some hi → isHigh hi = true → ¬ StartsLow ts → LBody o ts cs →
      LBody o ('\\' :: 'u' :: a :: b :: c :: d :: ts) (fffd :: cs)
  | loneLow (a b c d : Char) (lo : Nat) (ts cs : List Char) : o.inval = true →
      hexCp a b c d = some lo → isLow lo = true → LBody o ts cs →
      LBody o ('\\' :: 'u' :: a :: b :: c :: d :: ts) (fffd :: cs)

inductive LString (o : ParseOptions) : List Char → List Char → Prop
  | mk (t cs : List Char) : LBody o t cs → LString o ('"' :: (t ++ ['"'])) cs

/-- with both options off, nothing is added -/
theorem LBody.strict {t cs : List Char} (h : LBody ⟨false, false⟩ t cs) : GBody t cs := by
  induction h with
  | nil => exact .nil
  | elem t c ts cs he _ ih => exact .cons t c ts cs he ih
  | loneHigh _ _ _ _ _ _ _ ht => cases ht
  | loneLow _ _ _ _ _ _ _ hi => cases hi

/-- every strict string keeps its meaning under every option record -/
theorem GBody.lenient (o : ParseOptions) {t cs : List Char} (h : GBody t cs) : LBody o t cs := by
  induction h with
  | nil => exact .nil
  | cons t c ts cs he _ ih => exact .elem t c ts cs he ih

end JsonVerif
