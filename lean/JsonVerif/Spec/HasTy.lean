import JsonVerif.Model.De
/-!
# Well-typed data: which `SData` are the values of the Rust type a descriptor describes

This is the domain of C16's round trip. Side conditions that Rust itself guarantees (distinct field
and variant names, distinct map keys) and the ones the serde_json conventions impose (no field or
key spelled like the private number token, no `Some` around a value that serializes to `null`,
floats finite and stable under lexical's print and std's parse) are explicit.
-/
namespace JsonVerif

/-- the variant name of an enum datum -/
def variantOf : SData → Option (List Char)
  | .unitVariant n => some n
  | .newtypeVariant n _ => some n
  | .tupleVariant n _ => some n
  | .structVariant n _ => some n
  | _ => none

/-- data of a key type -/
def HasKey : KTy → SData → Prop
  | .str, d => ∃ s, d = .str s
  | .int w, d => ∃ i : Int, w.lo ≤ i ∧ i ≤ w.hi ∧ d = w.mk i
  | .char, d => ∃ c, d = .char c
  | .unitEnum names, d => ∃ v, d = .unitVariant v ∧ v ∈ names
  | .newtype k, d => ∃ x, d = .newtypeStruct x ∧ HasKey k x

/-- the keys of a map datum, as the key serializer spells them, are pairwise distinct and none is
    the private number token -/
def KeysOk (l : List (SData × SData)) : Prop :=
  ∃ ns : List (List Char), l.map (fun e => serKey e.1) = ns.map Except.ok ∧ ns.Nodup ∧ numberToken ∉ ns

mutual
def HasTy (env : FEnv) : DTy → SData → Prop
  | .bool, d => ∃ b, d = .bool b
  | .int w, d => ∃ i : Int, w.lo ≤ i ∧ i ≤ w.hi ∧ d = w.mk i
  | .f32, d => ∃ t, d = .float (some t) ∧ env.f32 t = some t
  | .f64, d => ∃ t, d = .float (some t) ∧ env.f64 t = some t
  | .char, d => ∃ c, d = .char c
  | .str, d => ∃ s, d = .str s
  | .unit, d => d = .unit
  | .unitStruct, d => d = .unitStruct
  | .opt t, d => d = .none ∨ ∃ x, d = .some x ∧ HasTy env t x ∧ ser x ≠ .ok .null
  | .newtype t, d => ∃ x, d = .newtypeStruct x ∧ HasTy env t x
  | .seq t, d => ∃ xs, d = .seq xs ∧ ∀ x ∈ xs, HasTy env t x
  | .tuple ts, d => ∃ xs, d = .seq xs ∧ HasTyL env ts xs
  | .map k t, d => ∃ l, d = .map l ∧ (∀ e ∈ l, HasKey k e.1 ∧ HasTy env t e.2) ∧ KeysOk l
  | .struct fs, d => ∃ l, d = .struct l ∧ HasTyF env fs l ∧ (fs.map (·.1)).Nodup ∧
      numberToken ∉ fs.map (·.1)
  | .enum vs, d => HasTyV env vs d
def HasTyL (env : FEnv) : List DTy → List SData → Prop
  | [], xs => xs = []
  | t :: ts, xs => ∃ y ys, xs = y :: ys ∧ HasTy env t y ∧ HasTyL env ts ys
def HasTyF (env : FEnv) : List (List Char × DTy) → List (List Char × SData) → Prop
  | [], l => l = []
  | (n, t) :: fs, l => ∃ y ys, l = (n, y) :: ys ∧ HasTy env t y ∧ HasTyF env fs ys
def HasTyV (env : FEnv) : List (List Char × DTy) → SData → Prop
  | [], _ => False
  | (n, p) :: vs, d =>
    (match p with
     | .unit => d = .unitVariant n
     | .newtype t => ∃ x, d = .newtypeVariant n x ∧ HasTy env t x
     -- `ts ≠ []`: a tuple variant without components is written `{"V": []}`, and `deVariant` rejects
     -- an empty array there (it is `visit_unit`)
     | .tuple ts => ∃ xs, d = .tupleVariant n xs ∧ HasTyL env ts xs ∧ ts ≠ []
     | .struct fs => ∃ l, d = .structVariant n l ∧ HasTyF env fs l ∧ (fs.map (·.1)).Nodup
     | _ => False)
    -- a later variant only under another name: `deVariant` takes the first variant whose name matches
    -- (variant names are distinct in Rust)
    ∨ (variantOf d ≠ some n ∧ HasTyV env vs d)
end

end JsonVerif
