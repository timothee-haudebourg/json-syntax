import JsonVerif.Model.Machine
/-!
# Recursive-descent reference parser, over the same lexical layer as the machine

Only the container structure differs from the code: where `Value::parse_in` keeps an explicit stack
(`run`), the reference recurses. Fuel makes the mutual recursion structural; no separate "the fuel
does not matter" lemma is needed: `machine_rd` (`Lemmas/MachineRD.lean`) holds for every sufficient
fuel, and theorem B (`machine_eq_rd`) runs the reference at the fuel `2 * s.rest.length + 1`.
-/
namespace JsonVerif

mutual
def rdValue (o : ParseOptions) : Nat → Ctx → PS → Except PErr (JValue × PS)
  | 0, _, _ => .error .panic
  | n + 1, ctx, s =>
    match parseFragment o ctx s with
    | .error e => .error e
    | .ok (.value v, s') => .ok (v, s')
    | .ok (.beginArray i, s') => rdItems o n [] i s'
    | .ok (.beginObject i key e, s') => rdMembers o n [] i key e s'
/-- after `[ ws` (non-empty array): value (ws , ws value)* ws ] — `acc` = items so far -/
def rdItems (o : ParseOptions) : Nat → List JValue → Nat → PS → Except PErr (JValue × PS)
  | 0, _, _, _ => .error .panic
  | n + 1, acc, i, s =>
    match rdValue o n .array s with
    | .error e => .error e
    | .ok (v, s1) =>
      match contArray i s1 with
      | .error e => .error e
      | .ok (.item, s2) => rdItems o n (acc ++ [v]) i s2
      | .ok (.end_, s2) => .ok (.array (acc ++ [v]), s2)
/-- after `{ ws key ws :` : value, close the entry, then `, key :` … or `}` -/
def rdMembers (o : ParseOptions) : Nat → List JEntry → Nat → List Char → Nat → PS →
    Except PErr (JValue × PS)
  | 0, _, _, _, _, _ => .error .panic
  | n + 1, acc, i, key, e, s =>
    match rdValue o n .objectValue s with
    | .error x => .error x
    | .ok (v, s1) =>
      match s1.endFragment e with
      | .error x => .error x
      | .ok s2 =>
        match contObject o i s2 with
        | .error x => .error x
        | .ok (.entry key' e', s3) => rdMembers o n (acc ++ [(key, v)]) i key' e' s3
        | .ok (.end_, s3) => .ok (.object (acc ++ [(key, v)]), s3)
end

/-- the whole document: value, trailing whitespace, end of input -/
def rdDocument (o : ParseOptions) (n : Nat) (s : PS) : Except PErr (JValue × PS) :=
  match rdValue o n .none s with
  | .error e => .error e
  | .ok (v, s1) =>
    match skipWs s1 with
    | .error e => .error e
    | .ok s2 =>
      match s2.rest with
      | c :: _ => .error (.unexpected s2.pos (some c))
      | [] => .ok (v, s2)

end JsonVerif
