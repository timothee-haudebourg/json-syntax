import JsonVerif.Model.ParseLex
/-!
# RFC 8259 as a relation between texts and values

`GDoc text v`: `text` is a JSON-text (RFC 8259 §2: `ws value ws`) and `v` is its abstract content
(§4 objects: members in order, duplicates kept; §5 arrays; §6 numbers: the spelling itself; §7
strings: the sequence of characters denoted, `\uXXXX` escapes read as UTF-16 so that a surrogate
pair denotes one scalar value — and, since the result must be a Rust `String`, an escape that is
an unpaired surrogate denotes nothing: such texts are not in the relation).

The productions are transcribed from the ABNF one for one; nothing here mentions the parser.
Only the lexical helpers `isWs`, `isDigit`, `isDigit19`, `isE`, `hexVal`, `esc2`, `isControl`,
`isHigh`, `isLow`, `pairCp`, `ofCp` (character classes and arithmetic, each a one-liner in
Model/ParseLex.lean, `isWs` in Model/ParseBasic.lean) are shared with the model.
-/
namespace JsonVerif

/-- ws = *( %x20 / %x09 / %x0A / %x0D ) -/
def IsWsL (w : List Char) : Prop := ∀ c ∈ w, isWs c = true

def AllDigits (d : List Char) : Prop := ∀ c ∈ d, isDigit c = true

/-- int = zero / ( digit1-9 *DIGIT ) -/
inductive GInt : List Char → Prop
  | zero : GInt ['0']
  | nz (c : Char) (ds : List Char) : isDigit19 c = true → AllDigits ds → GInt (c :: ds)

/-- frac = decimal-point 1*DIGIT (optional) -/
inductive GFrac : List Char → Prop
  | none : GFrac []
  | some (c : Char) (ds : List Char) : isDigit c = true → AllDigits ds → GFrac ('.' :: c :: ds)

/-- exp = e [ minus / plus ] 1*DIGIT (optional) -/
inductive GExp : List Char → Prop
  | none : GExp []
  | plain (e c : Char) (ds : List Char) : isE e = true → isDigit c = true → AllDigits ds →
      GExp (e :: c :: ds)
  | signed (e sg c : Char) (ds : List Char) : isE e = true → (sg = '+' ∨ sg = '-') →
      isDigit c = true → AllDigits ds → GExp (e :: sg :: c :: ds)

/-- number = [ minus ] int [ frac ] [ exp ] -/
inductive GNumber : List Char → Prop
  | pos (i f e : List Char) : GInt i → GFrac f → GExp e → GNumber (i ++ f ++ e)
  | neg (i f e : List Char) : GInt i → GFrac f → GExp e → GNumber ('-' :: (i ++ f ++ e))

/-- the code unit written by four hex digits -/
def hexCp (a b c d : Char) : Option Nat :=
  match hexVal a, hexVal b, hexVal c, hexVal d with
  | some x3, some x2, some x1, some x0 => some (x3 * 4096 + x2 * 256 + x1 * 16 + x0)
  | _, _, _, _ => none

/-- one `char` of a string, and the character it denotes -/
inductive GElem : List Char → Char → Prop
  /-- unescaped = %x20-21 / %x23-5B / %x5D-10FFFF -/
  | raw (c : Char) : c ≠ '"' → c ≠ '\\' → isControl c = false → GElem [c] c
  /-- escape ( " \ / b f n r t ) -/
  | esc (e ch : Char) : e ≠ 'u' → esc2 e = some ch → GElem ['\\', e] ch
  /-- escape uXXXX, a scalar value by itself -/
  | u (a b c d : Char) (cp : Nat) (ch : Char) : hexCp a b c d = some cp →
      isHigh cp = false → ofCp cp = some ch → GElem ['\\', 'u', a, b, c, d] ch
  /-- a high surrogate escape followed by a low surrogate escape: one scalar value -/
  | pair (a b c d a' b' c' d' : Char) (hi lo : Nat) (ch : Char) :
      hexCp a b c d = some hi → isHigh hi = true → hexCp a' b' c' d' = some lo → isLow lo = true →
      ofCp (pairCp hi lo) = some ch →
      GElem ['\\', 'u', a, b, c, d, '\\', 'u', a', b', c', d'] ch

/-- *char -/
inductive GBody : List Char → List Char → Prop
  | nil : GBody [] []
  | cons (t : List Char) (c : Char) (ts cs : List Char) : GElem t c → GBody ts cs →
      GBody (t ++ ts) (c :: cs)

/-- string = quotation-mark *char quotation-mark -/
inductive GString : List Char → List Char → Prop
  | mk (t cs : List Char) : GBody t cs → GString ('"' :: (t ++ ['"'])) cs

mutual
/-- value = false / null / true / object / array / number / string -/
inductive GValue : List Char → JValue → Prop
  | null : GValue ['n', 'u', 'l', 'l'] .null
  | true : GValue ['t', 'r', 'u', 'e'] (.bool true)
  | false : GValue ['f', 'a', 'l', 's', 'e'] (.bool false)
  | number (n : List Char) : GNumber n → GValue n (.number n)
  | string (t cs : List Char) : GString t cs → GValue t (.string cs)
  /-- array = begin-array [ value *( value-separator value ) ] end-array -/
  | arrEmpty (w : List Char) : IsWsL w → GValue ('[' :: (w ++ [']'])) (.array [])
  | arr (t : List Char) (vs : List JValue) : GItems t vs → GValue ('[' :: (t ++ [']'])) (.array vs)
  /-- object = begin-object [ member *( value-separator member ) ] end-object -/
  | objEmpty (w : List Char) : IsWsL w → GValue ('{' :: (w ++ ['}'])) (.object [])
  | obj (t : List Char) (es : List JEntry) : GMembers t es → GValue ('{' :: (t ++ ['}'])) (.object es)
/-- ws value ws *( `,` ws value ws ) -/
inductive GItems : List Char → List JValue → Prop
  | one (w1 t w2 : List Char) (v : JValue) : IsWsL w1 → GValue t v → IsWsL w2 →
      GItems (w1 ++ t ++ w2) [v]
  | cons (w1 t w2 ts : List Char) (v : JValue) (vs : List JValue) :
      IsWsL w1 → GValue t v → IsWsL w2 → GItems ts vs →
      GItems (w1 ++ t ++ w2 ++ ',' :: ts) (v :: vs)
/-- member = ws string ws `:` ws value ws, separated by `,` -/
inductive GMembers : List Char → List JEntry → Prop
  | one (w1 k w2 w3 t w4 : List Char) (key : List Char) (v : JValue) :
      IsWsL w1 → GString k key → IsWsL w2 → IsWsL w3 → GValue t v → IsWsL w4 →
      GMembers (w1 ++ k ++ w2 ++ ':' :: (w3 ++ t ++ w4)) [(key, v)]
  | cons (w1 k w2 w3 t w4 ts : List Char) (key : List Char) (v : JValue) (es : List JEntry) :
      IsWsL w1 → GString k key → IsWsL w2 → IsWsL w3 → GValue t v → IsWsL w4 → GMembers ts es →
      GMembers (w1 ++ k ++ w2 ++ ':' :: (w3 ++ t ++ w4 ++ ',' :: ts)) ((key, v) :: es)
end

/-- JSON-text = ws value ws -/
def GDoc (text : List Char) (v : JValue) : Prop :=
  ∃ w1 t w2, text = w1 ++ t ++ w2 ∧ IsWsL w1 ∧ GValue t v ∧ IsWsL w2

end JsonVerif
