import JsonVerif.Spec.Grammar
/-!
# The code map RFC 8259's grammar induces on a text (specification of C05)

`SValue b t v cm`: the text `t`, found at byte offset `b` of the document, derives the value `v`
(as in `GValue`), and `cm` is the list of code-map entries of the fragments of `v` in pre-order:
one entry per value, per object entry and per key; each entry's span is exactly the bytes of that
fragment's own text (for an object entry: from the first byte of its key to the last byte of its
value) — no surrounding whitespace — and its volume is the number of entries of its subtree.
Offsets are byte offsets in the UTF-8 encoding (`utf8Len`).
-/
namespace JsonVerif

mutual
inductive SValue : Nat → List Char → JValue → List CMEntry → Prop
  | null (b : Nat) : SValue b ['n', 'u', 'l', 'l'] .null [⟨b, b + 4, 1⟩]
  | true (b : Nat) : SValue b ['t', 'r', 'u', 'e'] (.bool true) [⟨b, b + 4, 1⟩]
  | false (b : Nat) : SValue b ['f', 'a', 'l', 's', 'e'] (.bool false) [⟨b, b + 5, 1⟩]
  | number (b : Nat) (n : List Char) : GNumber n → SValue b n (.number n) [⟨b, b + utf8Len n, 1⟩]
  | string (b : Nat) (t cs : List Char) : GString t cs → SValue b t (.string cs) [⟨b, b + utf8Len t, 1⟩]
  | arrEmpty (b : Nat) (w : List Char) : IsWsL w →
      SValue b ('[' :: (w ++ [']'])) (.array []) [⟨b, b + 1 + utf8Len w + 1, 1⟩]
  | arr (b : Nat) (t : List Char) (vs : List JValue) (cm : List CMEntry) : SItems (b + 1) t vs cm →
      SValue b ('[' :: (t ++ [']'])) (.array vs) (⟨b, b + 1 + utf8Len t + 1, 1 + cm.length⟩ :: cm)
  | objEmpty (b : Nat) (w : List Char) : IsWsL w →
      SValue b ('{' :: (w ++ ['}'])) (.object []) [⟨b, b + 1 + utf8Len w + 1, 1⟩]
  | obj (b : Nat) (w1 k w2 tl key : List Char) (es : List JEntry) (cm : List CMEntry) :
      IsWsL w1 → GString k key → IsWsL w2 →
      STail (b + 1 + utf8Len w1) (b + 1 + utf8Len w1 + utf8Len k)
        (b + 1 + utf8Len w1 + utf8Len k + utf8Len w2 + 1) tl key es cm →
      SValue b ('{' :: ((w1 ++ k ++ w2 ++ ':' :: tl) ++ ['}'])) (.object es)
        (⟨b, b + 1 + utf8Len (w1 ++ k ++ w2 ++ ':' :: tl) + 1, 1 + cm.length⟩ :: cm)
/-- `ws value ws ( , ws value ws )*` starting at offset `b` -/
inductive SItems : Nat → List Char → List JValue → List CMEntry → Prop
  | one (b : Nat) (w1 t w2 : List Char) (v : JValue) (cm : List CMEntry) :
      IsWsL w1 → SValue (b + utf8Len w1) t v cm → IsWsL w2 → SItems b (w1 ++ t ++ w2) [v] cm
  | cons (b : Nat) (w1 t w2 ts : List Char) (v : JValue) (vs : List JValue) (cm1 cm2 : List CMEntry) :
      IsWsL w1 → SValue (b + utf8Len w1) t v cm1 → IsWsL w2 →
      SItems (b + utf8Len (w1 ++ t ++ w2) + 1) ts vs cm2 →
      SItems b (w1 ++ t ++ w2 ++ ',' :: ts) (v :: vs) (cm1 ++ cm2)
/-- the members of an object from just after the first `key ws :` (key at bytes `kb..ke`, the text
    `tl` starting at `b`): entry fragment, key fragment, value fragments; then the next members -/
inductive STail : Nat → Nat → Nat → List Char → List Char → List JEntry → List CMEntry → Prop
  | one (kb ke b : Nat) (w3 t w4 key : List Char) (v : JValue) (cmv : List CMEntry) :
      IsWsL w3 → SValue (b + utf8Len w3) t v cmv → IsWsL w4 →
      STail kb ke b (w3 ++ t ++ w4) key [(key, v)]
        (⟨kb, b + utf8Len w3 + utf8Len t, 2 + cmv.length⟩ :: ⟨kb, ke, 1⟩ :: cmv)
  | cons (kb ke b : Nat) (w3 t w4 w1 k w2 ts key key' : List Char) (v : JValue) (es : List JEntry)
      (cmv cm' : List CMEntry) :
      IsWsL w3 → SValue (b + utf8Len w3) t v cmv → IsWsL w4 → IsWsL w1 → GString k key' → IsWsL w2 →
      STail (b + utf8Len (w3 ++ t ++ w4) + 1 + utf8Len w1)
        (b + utf8Len (w3 ++ t ++ w4) + 1 + utf8Len w1 + utf8Len k)
        (b + utf8Len (w3 ++ t ++ w4) + 1 + utf8Len w1 + utf8Len k + utf8Len w2 + 1) ts key' es cm' →
      STail kb ke b (w3 ++ t ++ w4 ++ ',' :: (w1 ++ k ++ w2 ++ ':' :: ts)) key ((key, v) :: es)
        (⟨kb, b + utf8Len w3 + utf8Len t, 2 + cmv.length⟩ :: ⟨kb, ke, 1⟩ :: (cmv ++ cm'))
end

/-- the code map of a whole document -/
def SDoc (text : List Char) (v : JValue) (cm : List CMEntry) : Prop :=
  ∃ w1 t w2, text = w1 ++ t ++ w2 ∧ IsWsL w1 ∧ SValue (utf8Len w1) t v cm ∧ IsWsL w2

end JsonVerif
