import JsonVerif.Lemmas.LenientStr
import JsonVerif.Lemmas.LexProg
import JsonVerif.Lemmas.RdInd
import JsonVerif.Spec.LGrammar
/-!
# Soundness of the recursive-descent parser under any option record, against `LValue o`

What a successful `parseFragment` / `contArray` / `contObject` has read, the position it reached and
the code-map entries it wrote, put together from the primitives of Lemmas/Leaf.lean; then the
induction `rd_sound`. For each step lexer `XText` is the text a result stands for, `XSpan` (`FragSpan`)
adds where its pieces lie and what was written to the code map; `X_sound` is the projection to the text.

First what does not mention the option record; a name in the namespace `Len` is stated for every
option record `o`, against `LValue o` with that record's strings.
-/
namespace JsonVerif

/-- a scalar or an empty container: what `parseFragment` hands back as a finished value -/
def IsLeaf : JValue → Prop
  | .array (_ :: _) => False
  | .object (_ :: _) => False
  | _ => True

/-- whitespace, an opening bracket, whitespace: the common beginning of arrays and objects (read
    forwards by `open_complete`) — the entry reserved for the container, and where `s2` stands -/
theorem open_span {op : Char} (hop : op.utf8Size = 1) {s s0 s1 s2 : PS} (h0 : skipWs s = .ok s0)
    (h1 : expectChar op s0.reserve = .ok s1) (h2 : skipWs s1 = .ok s2) :
    ∃ w w0, IsWsL w ∧ IsWsL w0 ∧ s.rest = w ++ op :: (w0 ++ s2.rest) ∧ s0.rest = op :: (w0 ++ s2.rest) ∧
      s2.cm.toList = s.cm.toList ++ [⟨s.pos + utf8Len w, s.pos + utf8Len w, 0⟩] ∧
      s2.pos = s.pos + utf8Len w + 1 + utf8Len w0 ∧ s2.cm = s0.reserve.cm ∧ s0.cm = s.cm := by
  obtain ⟨w, hw, hws, hp0, hc0⟩ := skipWs_span h0
  obtain ⟨w0, hw0, hws0, hp2, hc2⟩ := skipWs_span h2
  obtain ⟨c1, e1⟩ := expectChar_spec h1
  have p1 := pos_of (expectChar_adv h1) (w := [op]) e1
  simp only [beginFragment_rest] at e1
  simp only [beginFragment_pos, utf8Len_cons, utf8Len_nil, hop] at p1
  refine ⟨w, w0, hws, hws0, by rw [hw, e1, hw0], by rw [e1, hw0], ?_, ?_, hc2.trans c1, hc0⟩
  · rw [hc2, c1, reserve_cm, Array.toList_push, hc0, hp0]
  · rw [hp2, p1, hp0]

/-- the text `contArray` reads for each of its results: whitespace, then `,` or `]` -/
def ContArrText : ArrCont → List Char → Prop
  | .item, t => ∃ w, IsWsL w ∧ t = w ++ [',']
  | .end_, t => ∃ w, IsWsL w ∧ t = w ++ [']']

/-- `ContArrText` with the position reached and what was done to the code map: nothing, or the
    array's entry `i` is closed -/
def ContArrSpan (i : Nat) (s s' : PS) : ArrCont → Prop
  | .item => ∃ w, IsWsL w ∧ s.rest = w ++ ',' :: s'.rest ∧ s'.cm = s.cm ∧ s'.pos = s.pos + utf8Len w + 1
  | .end_ => ∃ w, IsWsL w ∧ s.rest = w ++ ']' :: s'.rest ∧ s'.pos = s.pos + utf8Len w + 1 ∧
      Closed i s.cm.toList s'.cm.toList s'.pos []

/-- a closing bracket `d` after whitespace closes the fragment opened at index `i` -/
theorem close_span {i : Nat} {s s0 s' : PS} {d : Char} {r : List Char} (h0 : skipWs s = .ok s0)
    (hr : s0.rest = d :: r) (hd : d.utf8Size = 1) (h1 : (s0.adv d r).endFragment i = .ok s') :
    ∃ w, IsWsL w ∧ s.rest = w ++ d :: s'.rest ∧ s'.pos = s.pos + utf8Len w + 1 ∧
      Closed i s.cm.toList s'.cm.toList s'.pos [] := by
  obtain ⟨w, hw, hws, hp0, hc0⟩ := skipWs_span h0
  have hp := endFragment_rest h1
  have hcl := endFragment_closed h1
  rw [← hp.2.1] at hcl
  simp only [PS.adv, hc0] at hcl
  refine ⟨w, hws, by rw [hw, hr, hp.1]; rfl, ?_, hcl⟩
  rw [hp.2.1]; simp [PS.adv, hd, hp0]

theorem contArray_span {i : Nat} {s : PS} {c : ArrCont} {s' : PS} (h : contArray i s = .ok (c, s')) :
    ContArrSpan i s s' c := by
  rw [contArray_eq] at h
  obtain ⟨_, s0, h0, h⟩ := Lex.bind_ok.1 h
  have h0 := Lex.lift_ok.1 h0
  obtain ⟨d, r, hr, h⟩ := Lex.peekC_ok.1 h
  rcases Lex.ite_eq.1 h with ⟨rfl, h1⟩ | ⟨_, h1⟩
  · rw [Lex.bind_next hr] at h1
    cases Lex.pure_ok.1 h1
    obtain ⟨w, hw, hws, hp0, hc0⟩ := skipWs_span h0
    exact ⟨w, hws, by rw [hw, hr]; rfl, by simp [PS.adv, hc0], by simp [PS.adv, hp0]⟩
  rcases Lex.ite_eq.1 h1 with ⟨rfl, h2⟩ | ⟨_, h2⟩
  · obtain ⟨rfl, h3⟩ := (Lex.closer_ok hr).1 h2
    exact close_span h0 hr utf8Size_rbr h3
  · cases h2

theorem contArray_sound {i : Nat} {s : PS} {c : ArrCont} {s' : PS} (h : contArray i s = .ok (c, s')) :
    ∃ t, s.rest = t ++ s'.rest ∧ ContArrText c t := by
  cases c
  all_goals
    obtain ⟨w, hw, hr, _⟩ := contArray_span h
    exact ⟨_, by rw [hr, List.append_assoc]; rfl, w, hw, rfl⟩

/-- the text `contObject` reads for each of its results: whitespace, then `}` or `, ws key ws :` -/
def ContObjText (o : ParseOptions) : ObjCont → List Char → Prop
  | .end_, t => ∃ w, IsWsL w ∧ t = w ++ ['}']
  | .entry key _, t => ∃ w w1 k w2, IsWsL w ∧ IsWsL w1 ∧ LString o k key ∧ IsWsL w2 ∧
      t = w ++ ',' :: (w1 ++ k ++ w2 ++ [':'])

end JsonVerif

namespace JsonVerif.Len
variable {o : ParseOptions}

theorem lexString_sound {s : PS} {str : List Char} {s' : PS}
    (h : lexString o s = .ok (str, s')) : ∃ t, s.rest = t ++ s'.rest ∧ LString o t str :=
  (lexString_iff o s str s'.rest).1 ⟨s', h, rfl⟩

/-- `key ws :` — text, positions and the two code-map entries it leaves (entry placeholder, key) -/
theorem lexKeyColon_span {s : PS} {key : List Char} {e : Nat} {s' : PS}
    (h : Lex.ofTriple (lexKeyColon o) s = .ok ((key, e), s')) :
    e = s.cm.size ∧ ∃ k w2, s.rest = k ++ w2 ++ ':' :: s'.rest ∧ LString o k key ∧ IsWsL w2 ∧
      s'.cm.toList = s.cm.toList ++ [⟨s.pos, s.pos, 0⟩, ⟨s.pos, s.pos + utf8Len k, 1⟩] ∧
      s'.pos = s.pos + utf8Len k + utf8Len w2 + 1 := by
  -- the frame fact is about the lexer as a whole: taken before `h` is taken apart
  have hadv := (Lex.WB.lexKeyColon o).adv h
  rw [lexKeyColon_eq, Lex.bind_reserve] at h
  obtain ⟨_, s1, h1, h⟩ := Lex.bind_ok.1 h
  obtain ⟨_, s2, h2, h⟩ := Lex.bind_ok.1 h
  obtain ⟨_, s3, h3, h⟩ := Lex.bind_ok.1 h
  cases Lex.pure_ok.1 h
  have h2 := Lex.lift_ok.1 h2
  have h3 := Lex.lift_ok.1 h3
  obtain ⟨k, hk, hg⟩ := lexString_sound h1
  have p1 := pos_of (lexString_adv h1) hk
  simp only [beginFragment_rest, beginFragment_pos] at hk p1
  obtain ⟨w2, hw, hws, _, c2⟩ := skipWs_span h2
  have hr : s.rest = k ++ w2 ++ ':' :: s'.rest := by
    rw [hk, hw, (expectChar_spec h3).2, List.append_assoc]
  refine ⟨rfl, k, w2, hr, hg, hws, ?_, ?_⟩
  · -- code map
    rw [(expectChar_spec h3).1, c2, lexString_cm h1, p1]
    simp [PS.reserve]
  · -- position
    rw [pos_of hadv (w := k ++ w2 ++ [':']) (by rw [hr]; simp)]
    simp [Nat.add_assoc]

/-- everything a successful `parseFragment` establishes: the text read, the value or key it denotes,
    the position reached and the code-map entries written. For `beginObject` three entries are pushed:
    the object's placeholder (index `i`), the first member's placeholder (index `e = i + 1`) and the
    finished entry of its key; the placeholders are closed later (`Closed`). -/
def FragSpan (o : ParseOptions) (s s' : PS) : Fragment → Prop
  | .value v => ∃ w t, s.rest = w ++ t ++ s'.rest ∧ IsWsL w ∧ LValue o t v ∧ IsLeaf v ∧
      s'.cm.toList = s.cm.toList ++ [⟨s.pos + utf8Len w, s.pos + utf8Len w + utf8Len t, 1⟩] ∧
      s'.pos = s.pos + utf8Len w + utf8Len t
  | .beginArray i => i = s.cm.size ∧ ∃ w w0, s.rest = w ++ '[' :: (w0 ++ s'.rest) ∧ IsWsL w ∧ IsWsL w0 ∧
      s'.cm.toList = s.cm.toList ++ [⟨s.pos + utf8Len w, s.pos + utf8Len w, 0⟩] ∧
      s'.pos = s.pos + utf8Len w + 1 + utf8Len w0
  | .beginObject i key e => i = s.cm.size ∧ e = s.cm.size + 1 ∧ ∃ w w0 k w2,
      s.rest = w ++ '{' :: (w0 ++ k ++ w2 ++ ':' :: s'.rest) ∧ IsWsL w ∧ IsWsL w0 ∧ LString o k key ∧ IsWsL w2 ∧
      s'.cm.toList = s.cm.toList ++ [⟨s.pos + utf8Len w, s.pos + utf8Len w, 0⟩,
        ⟨s.pos + utf8Len w + 1 + utf8Len w0, s.pos + utf8Len w + 1 + utf8Len w0, 0⟩,
        ⟨s.pos + utf8Len w + 1 + utf8Len w0, s.pos + utf8Len w + 1 + utf8Len w0 + utf8Len k, 1⟩] ∧
      s'.pos = s.pos + utf8Len w + 1 + utf8Len w0 + utf8Len k + utf8Len w2 + 1

/-- a leaf token: after the whitespace, `t` was read and one finished entry pushed for it -/
theorem frag_leaf {s s0 s' : PS} {t : List Char} {v : JValue} (h0 : skipWs s = .ok s0)
    (ha : Adv s s') (ht : s0.rest = t ++ s'.rest) (hcm : s'.cm = s0.cm.push ⟨s0.pos, s'.pos, 1⟩)
    (hv : LValue o t v) (hl : IsLeaf v) : FragSpan o s s' (.value v) := by
  obtain ⟨w, hw, hws, hp0, hc0⟩ := skipWs_span h0
  have hr : s.rest = w ++ t ++ s'.rest := by rw [hw, ht, List.append_assoc]
  have hp : s'.pos = s.pos + utf8Len w + utf8Len t := by
    rw [pos_of ha hr, utf8Len_append, Nat.add_assoc]
  refine ⟨w, t, hr, hws, hv, hl, ?_, hp⟩
  rw [hcm, Array.toList_push, hc0, hp0, hp]

/-- the closing bracket `cl` right after `open_span`: an empty container, one finished entry (`h3` in
    the shape `Lex.closer_ok` returns) -/
theorem empty_span {cl : Char} {s s0 s2 s3 : PS} {t r2 : List Char} {v : JValue}
    (h0 : skipWs s = .ok s0) (ha : Adv s s3) (hc2 : s2.cm = s0.reserve.cm)
    (hr0 : s0.rest = t ++ cl :: r2)
    (h3 : (s2.adv cl r2).endFragment s0.cm.size = .ok s3) (hv : LValue o (t ++ [cl]) v)
    (hl : IsLeaf v) : FragSpan o s s3 (.value v) := by
  have hp3 := endFragment_rest h3
  refine frag_leaf h0 ha (t := t ++ [cl]) ?_
    (by rw [leaf_end (s1 := s2.adv cl r2) hc2 h3, hp3.2.1]) hv hl
  rw [hr0, hp3.1, List.append_assoc]
  rfl

theorem startArray_span {s s0 : PS} {f : Fragment} {s' : PS} (h0 : skipWs s = .ok s0) (ha : Adv s s')
    (h : startArray s0 = .ok (f, s')) : FragSpan o s s' f := by
  rw [startArray_eq, Lex.opener, Lex.bind_reserve] at h
  obtain ⟨_, s1, h1, h⟩ := Lex.bind_ok.1 h
  obtain ⟨_, s2, h2, h⟩ := Lex.bind_ok.1 h
  obtain ⟨w, w0, hws, hws0, hr, hr0, hcm, hp, hc2, hc0⟩ :=
    open_span utf8Size_lbr h0 (Lex.lift_ok.1 h1) (Lex.lift_ok.1 h2)
  rcases Lex.ite_eq.1 h with ⟨hd, h3⟩ | ⟨_, h3⟩
  · obtain ⟨r2, hr2⟩ := List.head?_eq_some_iff.1 hd
    obtain ⟨rfl, h4⟩ := (Lex.closer_ok hr2).1 h3
    exact empty_span (t := '[' :: w0) h0 ha hc2 (by rw [hr0, hr2]; rfl) h4
      (.arrEmpty w0 hws0) trivial
  · cases Lex.pure_ok.1 h3
    exact ⟨by rw [hc0], w, w0, hr, hws, hws0, hcm, hp⟩

theorem startObject_span {s s0 : PS} {f : Fragment} {s' : PS} (h0 : skipWs s = .ok s0) (ha : Adv s s')
    (h : startObject o s0 = .ok (f, s')) : FragSpan o s s' f := by
  rw [startObject_eq, Lex.opener, Lex.bind_reserve] at h
  obtain ⟨_, s1, h1, h⟩ := Lex.bind_ok.1 h
  obtain ⟨_, s2, h2, h⟩ := Lex.bind_ok.1 h
  obtain ⟨w, w0, hws, hws0, hr, hr0, hcm, hp, hc2, hc0⟩ :=
    open_span utf8Size_lbc h0 (Lex.lift_ok.1 h1) (Lex.lift_ok.1 h2)
  rcases Lex.ite_eq.1 h with ⟨hd, h3⟩ | ⟨_, h3⟩
  · obtain ⟨r2, hr2⟩ := List.head?_eq_some_iff.1 hd
    obtain ⟨rfl, h4⟩ := (Lex.closer_ok hr2).1 h3
    exact empty_span (t := '{' :: w0) h0 ha hc2 (by rw [hr0, hr2]; rfl) h4
      (.objEmpty w0 hws0) trivial
  · rw [startObjectKey_eq] at h3
    obtain ⟨ke, s3, hk, h4⟩ := Lex.bind_ok.1 h3
    cases Lex.pure_ok.1 h4
    obtain ⟨he, k, w2, hrk, hg, hws2, hcmk, hpos⟩ := lexKeyColon_span hk
    refine ⟨by rw [hc0], ?_, w, w0, k, w2, ?_, hws, hws0, hg, hws2, ?_, ?_⟩
    · rw [he, hc2, ← hc0]; simp [PS.reserve]  -- `e`
    · rw [hr, hrk]; simp  -- text
    · rw [hcmk, hcm, hp]; simp  -- code map
    · rw [hpos, hp]  -- position

theorem parseFragment_span {ctx : Ctx} {s : PS} {f : Fragment} {s' : PS}
    (h : parseFragment o ctx s = .ok (f, s')) : FragSpan o s s' f := by
  have ha := parseFragment_adv h
  obtain ⟨s0, h0, hv⟩ := parseFragment_ok_inv h
  cases hv with
  | null h1 => exact frag_leaf h0 ha (lexNull_spec h1).1 (lexNull_spec h1).2 .null trivial
  | @bool b _ h1 =>
    have sp := lexBool_spec h1
    cases b
    · exact frag_leaf h0 ha sp.1 sp.2 .false trivial
    · exact frag_leaf h0 ha sp.1 sp.2 .true trivial
  | number h1 =>
    obtain ⟨hr, hn, _, hcm⟩ := lexNumber_spec h1
    exact frag_leaf h0 ha hr hcm (.number _ hn) trivial
  | string h1 =>
    obtain ⟨t, ht, hg⟩ := lexString_sound h1
    exact frag_leaf h0 ha ht (lexString_cm h1) (.string t _ hg) trivial
  | array h1 => exact startArray_span h0 ha h1
  | object h1 => exact startObject_span h0 ha h1

theorem parseFragment_sound {ctx : Ctx} {s : PS} {f : Fragment} {s' : PS}
    (h : parseFragment o ctx s = .ok (f, s')) :
    match f with
    | .value v => ∃ w t, s.rest = w ++ t ++ s'.rest ∧ IsWsL w ∧ LValue o t v
    | .beginArray _ => ∃ w w0, s.rest = w ++ '[' :: (w0 ++ s'.rest) ∧ IsWsL w ∧ IsWsL w0
    | .beginObject _ key _ => ∃ w w0 k w2, s.rest = w ++ '{' :: (w0 ++ k ++ w2 ++ ':' :: s'.rest) ∧
        IsWsL w ∧ IsWsL w0 ∧ LString o k key ∧ IsWsL w2 := by
  have hs := parseFragment_span h
  cases f with
  | value v => obtain ⟨w, t, hr, hw, hv, _⟩ := hs; exact ⟨w, t, hr, hw, hv⟩
  | beginArray i => obtain ⟨_, w, w0, hr, hw, hw0, _⟩ := hs; exact ⟨w, w0, hr, hw, hw0⟩
  | beginObject i key e =>
    obtain ⟨_, _, w, w0, k, w2, hr, hw, hw0, hk, hw2, _⟩ := hs
    exact ⟨w, w0, k, w2, hr, hw, hw0, hk, hw2⟩

/-- `ContObjText` with where its pieces lie, the position reached and what was done to the code map:
    the member's placeholder and its key entry are pushed, or the object's entry `i` is closed -/
def ContObjSpan (i : Nat) (s s' : PS) : ObjCont → Prop
  | .entry key e => e = s.cm.size ∧ ∃ w w1 k w2, s.rest = w ++ ',' :: (w1 ++ k ++ w2 ++ ':' :: s'.rest) ∧
      IsWsL w ∧ IsWsL w1 ∧ LString o k key ∧ IsWsL w2 ∧
      s'.cm.toList = s.cm.toList ++ [⟨s.pos + utf8Len w + 1 + utf8Len w1, s.pos + utf8Len w + 1 + utf8Len w1, 0⟩,
        ⟨s.pos + utf8Len w + 1 + utf8Len w1, s.pos + utf8Len w + 1 + utf8Len w1 + utf8Len k, 1⟩] ∧
      s'.pos = s.pos + utf8Len w + 1 + utf8Len w1 + utf8Len k + utf8Len w2 + 1
  | .end_ => ∃ w, IsWsL w ∧ s.rest = w ++ '}' :: s'.rest ∧ s'.pos = s.pos + utf8Len w + 1 ∧
      Closed i s.cm.toList s'.cm.toList s'.pos []

theorem contObject_span {i : Nat} {s : PS} {c : ObjCont} {s' : PS}
    (h : contObject o i s = .ok (c, s')) : ContObjSpan (o := o) i s s' c := by
  rw [contObject_eq] at h
  obtain ⟨_, s0, h0, h⟩ := Lex.bind_ok.1 h
  have h0 := Lex.lift_ok.1 h0
  obtain ⟨d, r, hr, h⟩ := Lex.peekC_ok.1 h
  rcases Lex.ite_eq.1 h with ⟨rfl, h1⟩ | ⟨_, h1⟩
  · rw [Lex.bind_next hr] at h1
    obtain ⟨_, s1, h2, h3⟩ := Lex.bind_ok.1 h1
    obtain ⟨ke, s2, hk, h4⟩ := Lex.bind_ok.1 h3
    cases Lex.pure_ok.1 h4
    obtain ⟨w, hw, hws, hp0, hc0⟩ := skipWs_span h0
    obtain ⟨w1, hw1, hws1, hp1, hc1⟩ := skipWs_span (Lex.lift_ok.1 h2)
    obtain ⟨he, k, w2, hk, hg, hws2, hcm, hpos⟩ := lexKeyColon_span hk
    simp only [PS.adv] at hw1 hp1 hc1
    refine ⟨by rw [he, hc1, hc0], w, w1, k, w2, ?_, hws, hws1, hg, hws2, ?_, ?_⟩
    · rw [hw, hr, hw1, hk]; simp
    · rw [hcm, hc1, hc0, hp1, hp0]; simp
    · rw [hpos, hp1, hp0]; simp
  rcases Lex.ite_eq.1 h1 with ⟨rfl, h2⟩ | ⟨_, h2⟩
  · obtain ⟨rfl, h3⟩ := (Lex.closer_ok hr).1 h2
    exact close_span h0 hr utf8Size_rbc h3
  · cases h2

theorem contObject_sound {i : Nat} {s : PS} {c : ObjCont} {s' : PS}
    (h : contObject o i s = .ok (c, s')) : ∃ t, s.rest = t ++ s'.rest ∧ ContObjText o c t := by
  have hs := contObject_span h
  cases c with
  | entry key e =>
    obtain ⟨_, w, w1, k, w2, hr, hw, hw1, hk, hw2, _⟩ := hs
    exact ⟨_, by rw [hr]; simp, w, w1, k, w2, hw, hw1, hk, hw2, rfl⟩
  | end_ =>
    obtain ⟨w, hw, hr, _⟩ := hs
    exact ⟨_, by rw [hr, List.append_assoc]; rfl, w, hw, rfl⟩

theorem LItems.prepend {t : List Char} {vs : List JValue} (h : LItems o t vs) {w0 : List Char}
    (hw : IsWsL w0) : LItems o (w0 ++ t) vs := by
  cases h with
  | one w1 t w2 v h1 hv h2 => simpa using LItems.one (w0 ++ w1) t w2 v (hw.append h1) hv h2
  | cons w1 t w2 ts v vs h1 hv h2 hts =>
    simpa using LItems.cons (w0 ++ w1) t w2 ts v vs (hw.append h1) hv h2 hts

/-- `rdMembers` starts after the first `key ws :`, which `parseFragment` / `contObject` has read: its
    clause says that what it reads makes a member list behind ANY such beginning `w1 k w2`. -/
theorem rd_sound : ∀ n,
    (∀ ctx s v s', rdValue o n ctx s = .ok (v, s') →
      ∃ w t, s.rest = w ++ t ++ s'.rest ∧ IsWsL w ∧ LValue o t v) ∧
    (∀ acc i s v s', rdItems o n acc i s = .ok (v, s') →
      ∃ t vs, s.rest = t ++ ']' :: s'.rest ∧ LItems o t vs ∧ v = .array (acc ++ vs)) ∧
    (∀ acc i key e s v s', rdMembers o n acc i key e s = .ok (v, s') →
      ∃ t es, s.rest = t ++ '}' :: s'.rest ∧ v = .object (acc ++ es) ∧
        ∀ w1 k w2, IsWsL w1 → LString o k key → IsWsL w2 → LMembers o (w1 ++ k ++ w2 ++ ':' :: t) es) := by
  apply rd_ind
  case leaf => exact parseFragment_sound
  case arr =>
    rintro ctx s i s1 v s' hf ⟨t, vs, ht, hg, rfl⟩
    obtain ⟨w, w0, hr, hws, hws0⟩ := parseFragment_sound hf
    refine ⟨w, '[' :: ((w0 ++ t) ++ [']']), ?_, hws, ?_⟩
    · rw [hr, ht]; simp
    · simpa using LValue.arr (w0 ++ t) vs (LItems.prepend hg hws0)
  case obj =>
    rintro ctx s i key e s1 v s' hf ⟨t, es, ht, rfl, hall⟩
    obtain ⟨w, w0, k, w2, hr, hws, hws0, hgk, hws2⟩ := parseFragment_sound hf
    refine ⟨w, '{' :: ((w0 ++ k ++ w2 ++ ':' :: t) ++ ['}']), ?_, hws, ?_⟩
    · rw [hr, ht]; simp
    · simpa using LValue.obj _ es (hall w0 k w2 hws0 hgk hws2)
  case item =>
    rintro acc i s v1 s1 s2 v s' ⟨w1, t1, hr1, hws1, hg1⟩ hc ⟨t', vs', ht', hg', rfl⟩
    obtain ⟨_, hr2, w2, hws2, rfl⟩ := contArray_sound hc
    refine ⟨w1 ++ t1 ++ w2 ++ ',' :: t', _, ?_, .cons w1 t1 w2 t' v1 vs' hws1 hg1 hws2 hg', by simp⟩
    rw [hr1, hr2, ht']; simp
  case last =>
    rintro acc i s v1 s1 s2 ⟨w1, t1, hr1, hws1, hg1⟩ hc
    obtain ⟨_, hr2, w2, hws2, rfl⟩ := contArray_sound hc
    refine ⟨w1 ++ t1 ++ w2, _, ?_, .one w1 t1 w2 v1 hws1 hg1 hws2, rfl⟩
    rw [hr1, hr2]; simp
  case entry =>
    rintro acc i key e s v1 s1 s2 key' e' s3 v s' ⟨w3, t1, hr1, hws3, hg1⟩ he hc ⟨t', es', ht', rfl, hall⟩
    obtain ⟨_, hr2, w4, w1', k', w2', hws4, hws1', hgk', hws2', rfl⟩ := contObject_sound hc
    refine ⟨w3 ++ t1 ++ w4 ++ ',' :: (w1' ++ k' ++ w2' ++ ':' :: t'), _, ?_, by simp,
      fun w1 k w2 h1 hk h2 => .cons w1 k w2 w3 t1 w4 _ key v1 es' h1 hk h2 hws3 hg1 hws4
        (hall w1' k' w2' hws1' hgk' hws2')⟩
    rw [hr1, ← (endFragment_rest he).1, hr2, ht']; simp
  case close =>
    rintro acc i key e s v1 s1 s2 s3 ⟨w3, t1, hr1, hws3, hg1⟩ he hc
    obtain ⟨_, hr2, w4, hws4, rfl⟩ := contObject_sound hc
    refine ⟨w3 ++ t1 ++ w4, _, ?_, rfl,
      fun w1 k w2 h1 hk h2 => .one w1 k w2 w3 t1 w4 key v1 h1 hk h2 hws3 hg1 hws4⟩
    rw [hr1, ← (endFragment_rest he).1, hr2]; simp

theorem rdDocument_sound {n : Nat} {s : PS} {v : JValue} {s' : PS}
    (h : rdDocument o n s = .ok (v, s')) : LDoc o s.rest v := by
  obtain ⟨s1, hv, h2, hnil⟩ := rdDocument_ok h
  obtain ⟨w, t, hr, hws, hg⟩ := (rd_sound n).1 _ _ _ _ hv
  obtain ⟨w2, hr2, hws2, _⟩ := skipWs_span h2
  exact ⟨w, t, w2, by rw [hr, hr2, hnil]; simp, hws, hg, hws2⟩

end JsonVerif.Len
