import JsonVerif.Lemmas.LGramSound
/-!
# The RFC 8259 grammar is the lenient grammar at the strict record

`LValue.strict` / `GValue.lenient` (and the same for strings, item lists, member lists): with both
options off `LValue so` is `GValue`, and every strict text keeps its content under every record.
With them a statement of Lemmas/LGramSound.lean at `so` is a statement about RFC 8259 (so
`GItems.prepend`, `rd_sound`; the hub theorems go through `ldoc_strict`, Lemmas/LHub.lean, instead).
-/
namespace JsonVerif

theorem LString.strict {t cs : List Char} : LString so t cs → GString t cs
  | .mk t cs h => .mk t cs h.strict

theorem GString.lenient (o : ParseOptions) {t cs : List Char} : GString t cs → LString o t cs
  | .mk t cs h => .mk t cs (h.lenient o)

mutual
theorem LValue.strict {t v} (h : LValue so t v) : GValue t v := by
  cases h with
  | null => exact .null
  | true => exact .true
  | false => exact .false
  | number n hn => exact .number _ hn
  | string t cs hs => exact .string _ cs hs.strict
  | arrEmpty w hw => exact .arrEmpty w hw
  | arr t vs hi => exact .arr t vs hi.strict
  | objEmpty w hw => exact .objEmpty w hw
  | obj t es hm => exact .obj t es hm.strict
theorem LItems.strict {t vs} (h : LItems so t vs) : GItems t vs := by
  cases h with
  | one w1 t w2 v h1 hv h2 => exact .one w1 t w2 v h1 hv.strict h2
  | cons w1 t w2 ts v vs h1 hv h2 hts => exact .cons w1 t w2 ts v vs h1 hv.strict h2 hts.strict
theorem LMembers.strict {t es} (h : LMembers so t es) : GMembers t es := by
  cases h with
  | one w1 k w2 w3 t w4 key v h1 hk h2 h3 hv h4 =>
    exact .one w1 k w2 w3 t w4 key v h1 hk.strict h2 h3 hv.strict h4
  | cons w1 k w2 w3 t w4 ts key v es h1 hk h2 h3 hv h4 hts =>
    exact .cons w1 k w2 w3 t w4 ts key v es h1 hk.strict h2 h3 hv.strict h4 hts.strict
end

mutual
theorem GValue.lenient (o : ParseOptions) {t v} (h : GValue t v) : LValue o t v := by
  cases h with
  | null => exact .null
  | true => exact .true
  | false => exact .false
  | number n hn => exact .number _ hn
  | string t cs hs => exact .string _ cs (hs.lenient o)
  | arrEmpty w hw => exact .arrEmpty w hw
  | arr t vs hi => exact .arr t vs (hi.lenient o)
  | objEmpty w hw => exact .objEmpty w hw
  | obj t es hm => exact .obj t es (hm.lenient o)
theorem GItems.lenient (o : ParseOptions) {t vs} (h : GItems t vs) : LItems o t vs := by
  cases h with
  | one w1 t w2 v h1 hv h2 => exact .one w1 t w2 v h1 (hv.lenient o) h2
  | cons w1 t w2 ts v vs h1 hv h2 hts =>
    exact .cons w1 t w2 ts v vs h1 (hv.lenient o) h2 (hts.lenient o)
theorem GMembers.lenient (o : ParseOptions) {t es} (h : GMembers t es) : LMembers o t es := by
  cases h with
  | one w1 k w2 w3 t w4 key v h1 hk h2 h3 hv h4 =>
    exact .one w1 k w2 w3 t w4 key v h1 (hk.lenient o) h2 h3 (hv.lenient o) h4
  | cons w1 k w2 w3 t w4 ts key v es h1 hk h2 h3 hv h4 hts =>
    exact .cons w1 k w2 w3 t w4 ts key v es h1 (hk.lenient o) h2 h3 (hv.lenient o) h4 (hts.lenient o)
end

theorem GItems.prepend {t : List Char} {vs : List JValue} (h : GItems t vs) {w0 : List Char}
    (hw : IsWsL w0) : GItems (w0 ++ t) vs :=
  (Len.LItems.prepend (h.lenient so) hw).strict

theorem rd_sound : ∀ n,
    (∀ ctx s v s', rdValue so n ctx s = .ok (v, s') →
      ∃ w t, s.rest = w ++ t ++ s'.rest ∧ IsWsL w ∧ GValue t v) ∧
    (∀ acc i s v s', rdItems so n acc i s = .ok (v, s') →
      ∃ t vs, s.rest = t ++ ']' :: s'.rest ∧ GItems t vs ∧ v = .array (acc ++ vs)) ∧
    (∀ acc i key e s v s', rdMembers so n acc i key e s = .ok (v, s') →
      ∃ t es, s.rest = t ++ '}' :: s'.rest ∧ v = .object (acc ++ es) ∧
        ∀ w1 k w2, IsWsL w1 → GString k key → IsWsL w2 → GMembers (w1 ++ k ++ w2 ++ ':' :: t) es) := by
  intro n
  obtain ⟨hV, hI, hM⟩ := Len.rd_sound (o := so) n
  refine ⟨fun ctx s v s' h => ?_, fun acc i s v s' h => ?_, fun acc i key e s v s' h => ?_⟩
  · obtain ⟨w, t, hr, hw, hv⟩ := hV _ _ _ _ h
    exact ⟨w, t, hr, hw, hv.strict⟩
  · obtain ⟨t, vs, hr, hi, hv⟩ := hI _ _ _ _ _ h
    exact ⟨t, vs, hr, hi.strict, hv⟩
  · obtain ⟨t, es, hr, hv, hm⟩ := hM _ _ _ _ _ _ _ h
    exact ⟨t, es, hr, hv, fun w1 k w2 h1 hk h2 => (hm w1 k w2 h1 (hk.lenient so) h2).strict⟩

end JsonVerif
