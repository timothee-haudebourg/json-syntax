import JsonVerif.Lemmas.LGramComplete
import JsonVerif.Lemmas.Conservative
/-!
# Every partial token can be completed

Every statement has the form: the STRICT scanner or lexer reports an unexpected character (or the
end of the input) at the end of `l` ⇒ some `comp` makes `l ++ comp` a complete token — digits for a
number (`Suffix`, `GNumber`), the missing letters of a literal, the missing hex digits / escape letter
and the closing quote for a string. Strings are completed under `allOpts`: a completion may leave a
lone surrogate behind, which only that record accepts (it is also the record of `Viable`).
-/
namespace JsonVerif
open Lex

/-- two prefixes of the same input that end at the same offset are the same -/
theorem cut_unique {l x w t : List Char} (h : l ++ x = w ++ t) (he : utf8Len w = utf8Len l) :
    l = w ∧ x = t := by
  obtain ⟨r, rfl, rfl⟩ := split_of_le h (by omega)
  cases r with
  | nil => simp
  | cons c r =>
    have := utf8Size_pos c
    simp only [utf8Len_append, utf8Len_cons] at he
    omega

theorem suffix_inhabited : ∀ st : NumState, ∃ w, Suffix st w
  | .init => ⟨['0'], gnumber_zero⟩
  | .firstDigit => ⟨['0'], ['0'], [], [], by simp, .zero, .none, .none⟩
  | .zero => ⟨[], [], [], by simp, .none, .none⟩
  | .nonZero => ⟨[], [], [], [], by simp, AllDigits.nil, .none, .none⟩
  | .fracFirst => ⟨['0'], '0', [], [], by simp, by decide, AllDigits.nil, .none⟩
  | .fracRest => ⟨[], [], [], by simp, AllDigits.nil, .none⟩
  | .expSign => ⟨['0'], .plain 'e' '0' [] (by decide) (by decide) AllDigits.nil⟩
  | .expFirst => ⟨['0'], '0', [], rfl, by decide, AllDigits.nil⟩
  | .expRest => ⟨[], AllDigits.nil⟩

theorem numLoop_fail_suffix (ctx : Ctx) : ∀ (l z : List Char) (st : NumState) (buf : List Char)
    (pos : Nat) (c : Option Char),
    numLoop ctx st buf (l ++ z) pos = .error (.unexpected (pos + utf8Len l) c) →
    ∃ comp, Suffix st (l ++ comp) := by
  intro l z st buf pos c h
  obtain ⟨w, c', r, st', hl, hr, _, he⟩ := numLoop_err_inv h
  injection he with hp _
  obtain ⟨rfl, _⟩ := cut_unique hl (by omega)
  obtain ⟨v, hv⟩ := suffix_inhabited st'
  exact ⟨v, hr.suffix hv⟩

theorem lexNumber_fail_prefix {ctx : Ctx} {s : PS} {l z : List Char} {c : Option Char}
    (hs : s.rest = l ++ z) (h : lexNumber ctx s = .error (.unexpected (s.pos + utf8Len l) c)) :
    ∃ comp, GNumber (l ++ comp) := by
  have h := lexNumber_error.1 h
  rw [hs] at h
  rcases numScan_error_inv h with h | ⟨st, buf, r, p, hv, ⟨_, _, he⟩ | ⟨_, he⟩⟩
  · exact numLoop_fail_suffix ctx l z .init [] s.pos c h
  · cases he
  · -- the loop stopped, without an error, where `l` ends, in a state that is not accepting
    injection he with hp _
    obtain ⟨w, hl, hr, _, _, rfl⟩ := numLoop_ok_inv hv
    obtain ⟨rfl, _⟩ := cut_unique hl (by omega)
    obtain ⟨v, hv'⟩ := suffix_inhabited st
    exact ⟨v, hr.suffix hv'⟩

theorem expectChars_fail_prefix : ∀ (cs : List Char) (s : PS) (l z : List Char) (c : Option Char),
    s.rest = l ++ z → expectChars cs s = .error (.unexpected (s.pos + utf8Len l) c) → ∃ t, cs = l ++ t
  | [], s, l, z, c, _, h => by simp [expectChars] at h
  | d :: cs, s, l, z, c, hs, h => by
    cases l with
    | nil => exact ⟨d :: cs, by simp⟩
    | cons e l' =>
      simp only [expectChars] at h
      unfold expectChar at h
      simp only [hs, List.cons_append] at h
      by_cases hed : e = d
      · simp only [hed, ↓reduceIte] at h
        obtain ⟨t, ht⟩ := expectChars_fail_prefix cs (s.adv d (l' ++ z)) l' z c rfl
          (by simpa [PS.adv, utf8Len_cons, hed, Nat.add_assoc] using h)
        exact ⟨t, by simp [hed, ht]⟩
      · simp only [hed, ↓reduceIte, Except.error.injEq, PErr.unexpected.injEq] at h
        have := utf8Size_pos e
        simp only [utf8Len_cons] at h
        omega

/-- a literal that fails with an unexpected character after `l`: `l` begins its letters (closing the
    fragment reports no character) -/
theorem lit_fail_prefix {α : Type} {cs : List Char} {i : Nat} {a : α} {s : PS} {l z : List Char}
    {c : Option Char} (hs : s.rest = l ++ z)
    (h : literal cs i a s = .error (.unexpected (s.pos + utf8Len l) c)) : ∃ t, l ++ t = cs := by
  rcases literal_error.1 h with h1 | ⟨_, _, h1⟩
  · exact (expectChars_fail_prefix cs s l z c hs h1).imp fun _ => Eq.symm
  · cases (endFragment_error.1 h1).2

theorem lexNull_fail_prefix {s : PS} {l z : List Char} {c : Option Char} (hs : s.rest = l ++ z)
    (h : lexNull s = .error (.unexpected (s.pos + utf8Len l) c)) :
    ∃ comp, l ++ comp = ['n', 'u', 'l', 'l'] := by
  have h := lift_error.2 h
  rw [lexNull_eq, bind_reserve] at h
  exact lit_fail_prefix (s := s.reserve) hs h

theorem lexBool_fail_prefix {s : PS} {l z : List Char} {c : Option Char} (hs : s.rest = l ++ z)
    (h : lexBool s = .error (.unexpected (s.pos + utf8Len l) c)) :
    ∃ comp, l ++ comp = ['t', 'r', 'u', 'e'] ∨ l ++ comp = ['f', 'a', 'l', 's', 'e'] := by
  cases l with
  | nil => exact ⟨_, .inl rfl⟩
  | cons d l' =>
    rw [lexBool_eq, bind_reserve, peekC_cons (show s.reserve.rest = d :: (l' ++ z) from hs)] at h
    rcases ite_eq.1 h with ⟨_, h1⟩ | ⟨_, h1⟩
    · exact (lit_fail_prefix (s := s.reserve) hs h1).imp fun _ => .inl
    rcases ite_eq.1 h1 with ⟨_, h2⟩ | ⟨_, h2⟩
    · exact (lit_fail_prefix (s := s.reserve) hs h2).imp fun _ => .inr
    · -- neither `t` nor `f`: the error is reported at the first character
      injection h2 with h2
      injection h2 with hp _
      have := utf8Size_pos d
      simp only [beginFragment_pos, utf8Len_cons] at hp
      omega

theorem strStep_more_any {o : ParseOptions} {bad : Bool} {acc : List Char} {high : Option (Nat × Nat)}
    {l : List Char} {pos : Nat} {a : List Char} {hi : Option (Nat × Nat)} {r : List Char} {p : Nat}
    (h : strStep o bad acc high l pos = .more a hi r p) :
    ∃ w, l = w ++ r ∧ ∀ y, strStep o bad acc high (w ++ y) pos = .more a hi y p := by
  obtain ⟨w, e, cs, hr, rfl, rfl, he, rfl⟩ := strStep_more_inv h
  exact ⟨w, rfl, fun y => strStep_out hr he ..⟩

/-- fewer than four hex digits are completed by zeros -/
theorem hex_pad {ds : List Char} (hn : ds.length < 4) (hds : ∀ c ∈ ds, hexVal c ≠ none) :
    ∃ comp a b c d cp, ds ++ comp = [a, b, c, d] ∧ hexCp a b c d = some cp := by
  have h0 : hexVal '0' ≠ none := by decide
  have hall : ∀ c ∈ ds ++ List.replicate (4 - ds.length) '0', hexVal c ≠ none := by
    intro c hc
    rcases List.mem_append.mp hc with h | h
    · exact hds c h
    · rw [(List.mem_replicate.mp h).2]; exact h0
  have hlen : (ds ++ List.replicate (4 - ds.length) '0').length = 4 := by
    rw [List.length_append, List.length_replicate]
    omega
  obtain ⟨a, b, c, d, cp, hw, hcp⟩ := hexCp_total hlen hall
  exact ⟨_, a, b, c, d, cp, hw, hcp⟩

theorem hex4_fail_comp {bad : Bool} {l z : List Char} {pos : Nat} {c : Option Char}
    (h : hex4 bad (l ++ z) pos = .error (.unexpected (pos + utf8Len l) c)) :
    ∃ comp, ∀ y, ∃ cp p, hex4 bad (l ++ comp ++ y) pos = .ok (cp, y, p) := by
  obtain ⟨ds, t, hl, hds, hn⟩ := hex_prefix 4 (l ++ z)
  rcases hn with hn | ⟨hn, ht⟩
  · obtain ⟨a, b, c, d, cp, rfl, hcp⟩ := hexCp_total hn hds
    rw [hl, show [a, b, c, d] ++ t = a :: b :: c :: d :: t from rfl, hex4_of _ _ hcp] at h
    cases h
  · rw [hl, hex4_stuck _ hn hds ht] at h
    injection h with h
    obtain ⟨rfl, _⟩ := cut_unique hl (by have := (stopErr_unexpected h).1; omega)
    obtain ⟨comp, a, b, c, d, cp, hw, hcp⟩ := hex_pad hn hds
    exact ⟨comp, fun y => ⟨cp, _, by rw [hw]; exact hex4_of y pos hcp⟩⟩

/-- under `allOpts` the table accepts every element that is not the closing quote -/
theorem onElem_all {e : Elem} (hq : e ≠ .quote) (high : Option (Nat × Nat)) (q p : Nat) :
    ∃ cs hi, onElem allOpts high q p e = .out cs hi false := by
  have h0 : ∃ cs hi, onElem0 allOpts q p e = .out cs hi false := by
    cases e with
    | quote => exact absurd rfl hq
    | chr c => exact ⟨_, _, rfl⟩
    | unit cp =>
      simp only [onElem0, allOpts, ↓reduceIte]
      split  -- `isHigh cp`: the unit becomes pending
      · exact ⟨_, _, rfl⟩
      · split <;> exact ⟨_, _, rfl⟩  -- `ofCp cp`: a scalar, or U+FFFD since `inval` is on
  cases high with
  | none => exact h0
  | some ph =>
    obtain ⟨cs, hi, h⟩ := h0
    cases e with
    | unit cp =>
      simp only [onElem, allOpts, ↓reduceIte] at h ⊢
      split  -- `isLow cp`: the pair combines (`ofCp` of it as above); else U+FFFD for the pending high
      · split <;> exact ⟨_, _, rfl⟩
      · rw [h]; exact ⟨_, _, rfl⟩
    | _ =>
      simp only [onElem, allOpts, ↓reduceIte] at h ⊢
      rw [h]
      exact ⟨_, _, rfl⟩

/-- the closing quote ends the string, whatever is pending -/
theorem strLoopAux_quote (bad : Bool) (fuel acc : List Char) (high : Option (Nat × Nat)) (r : List Char)
    (pos : Nat) : ∃ a p q, strLoopAux allOpts bad fuel acc high ('"' :: r) pos = .ok (a, r, p, q) := by
  have he : ∃ cs, onElem allOpts high pos (pos + utf8Len ['"']) .quote = .out cs none true := by
    cases high with
    | none => exact ⟨_, rfl⟩
    | some ph => exact ⟨_, rfl⟩
  obtain ⟨cs, he⟩ := he
  refine ⟨acc ++ cs, pos + utf8Len ['"'], pos, ?_⟩
  rw [strLoopAux, show '"' :: r = ['"'] ++ r from rfl, strStep_reads .quote, he]
  rfl

theorem Stuck.complete {w t : List Char} (h : Stuck w t) : w = [] ∨ ∃ comp e, Reads (w ++ comp) e ∧ e ≠ .quote := by
  cases h with
  | start => exact .inl rfl
  | esc => exact .inr ⟨['n'], .chr '\n', .esc 'n' '\n' (by decide) (by decide), by simp⟩
  | hex ds _ hn hds =>
    obtain ⟨comp, a, b, c, d, cp, hw, hcp⟩ := hex_pad hn hds
    exact .inr ⟨comp, .unit cp, by rw [List.cons_append, List.cons_append, hw]; exact .u a b c d cp hcp, by simp⟩

theorem strStep_fail_complete {bad : Bool} {acc : List Char} {high : Option (Nat × Nat)} {l z : List Char}
    {pos : Nat} {c : Option Char}
    (h : strStep strictOpts bad acc high (l ++ z) pos = .err (.unexpected (pos + utf8Len l) c)) :
    ∃ comp, ∀ r fuel2, 1 ≤ fuel2.length →
      ∃ a p q, strLoopAux allOpts bad fuel2 acc high (l ++ comp ++ '"' :: r) pos = .ok (a, r, p, q) := by
  obtain ⟨w, t, hs, hl, hp, _⟩ := strStep_unexpected_inv h
  obtain ⟨rfl, _⟩ := cut_unique hl (by omega)
  rcases hs.complete with rfl | ⟨comp, e, hr, hq⟩
  · exact ⟨[], fun r fuel2 _ => by simpa using strLoopAux_quote bad fuel2 acc high r pos⟩
  · refine ⟨comp, fun r fuel2 hf => ?_⟩
    obtain ⟨cs, hi, he⟩ := onElem_all hq high pos (pos + utf8Len (l ++ comp))
    match fuel2, hf with
    | f :: fuel2, _ =>
      rw [strLoopAux_more (strStep_out hr he ..)]
      exact strLoopAux_quote ..

/-- The strict loop failed after `l`: every `more` step it took before is taken again under
    `allOpts` (`onElem_mono`: what the strict table accepts the permissive one accepts, with the same
    output) on whatever follows, and the failing step is completed by `strStep_fail_complete`. The
    fuel `fuel2` of the replay is independent of the fuel of the failed run: it only has to cover
    the completed text. -/
theorem strLoopAux_fail_complete (bad : Bool) : ∀ (fuel acc : List Char) (high : Option (Nat × Nat))
    (l z : List Char) (pos : Nat) (c : Option Char),
    strLoopAux strictOpts bad fuel acc high (l ++ z) pos = .error (.unexpected (pos + utf8Len l) c) →
    ∃ comp, ∀ r fuel2, (l ++ comp ++ '"' :: r).length ≤ fuel2.length →
      ∃ a p q, strLoopAux allOpts bad fuel2 acc high (l ++ comp ++ '"' :: r) pos = .ok (a, r, p, q) := by
  intro fuel acc high l z pos c h
  generalize hlz : l ++ z = lz at h
  induction fuel, acc, high, lz, pos using strLoopAux_induct (o := strictOpts) (bad := bad) generalizing l with
  | done hs => rw [strLoopAux_done hs] at h; cases h
  | err hs =>
    rw [strLoopAux_err hs] at h; cases h; subst hlz
    obtain ⟨comp, hc⟩ := strStep_fail_complete hs
    exact ⟨comp, fun r fuel2 hf => hc r fuel2 (by simp at hf; omega)⟩
  | fuel hs => rw [strLoopAux_fuel hs] at h; cases h
  | more hs ih =>
    rw [strLoopAux_more hs] at h; subst hlz
    obtain ⟨w, e, cs, hr, hw, rfl, he, rfl⟩ := strStep_more_inv hs
    -- the run failed at or after the end of the element `w`, so `w` is a prefix of `l`
    have hq := strLoopAux_err_pos _ h
    obtain ⟨l1, rfl, rfl⟩ := split_of_le hw (by omega)
    obtain ⟨comp, hc⟩ := ih l1 rfl (by rw [h, utf8Len_append, Nat.add_assoc])
    refine ⟨comp, fun r fuel2 hf => ?_⟩
    have := List.length_pos_iff.mpr hr.ne_nil
    cases fuel2 with
    | nil => simp at hf
    | cons f2 fuel2 =>
      rw [List.append_assoc, List.append_assoc, strLoopAux_more (strStep_out hr (onElem_mono he) ..),
        ← List.append_assoc]
      exact hc r fuel2 (by simp only [List.length_append, List.length_cons] at hf ⊢; omega)

theorem lexString_fail_prefix {s : PS} {l z : List Char} {c : Option Char} (hs : s.rest = l ++ z)
    (h : lexString strictOpts s = .error (.unexpected (s.pos + utf8Len l) c)) :
    ∃ comp str, LString allOpts (l ++ comp) str := by
  cases l with
  | nil => exact ⟨['"', '"'], [], lstring_empty _⟩
  | cons d l1 =>
    have sd := utf8Size_pos d
    rcases lexString_error.1 h with ⟨hr, _⟩ | ⟨_, _, _, _, he⟩ | ⟨r, hr, hv⟩
    · rw [hs] at hr; cases hr
    · injection he with hp _; simp only [utf8Len_cons] at hp; omega
    · rw [hs] at hr; cases hr
      -- the loop failed after `l1`: complete the element it was reading, close the string, and
      -- read what the lenient loop then accepts as a body
      obtain ⟨comp, hc⟩ := strLoopAux_fail_complete s.bad (l1 ++ z) [] none l1 z
        (s.pos + ('"' : Char).utf8Size) c
        ((strScan_error.1 hv).trans (by simp only [utf8Len_cons, Nat.add_assoc]))
      obtain ⟨a, p, q, h2⟩ := hc [] (l1 ++ comp ++ ['"']) (Nat.le_refl _)
      obtain ⟨t, cs, hl, hb, _⟩ := (strLoopO_sound allOpts _).1 _ _ _ _ _ _ _ h2
      have : t = l1 ++ comp := (List.append_cancel_right hl).symm
      exact ⟨comp ++ ['"'], cs, by simpa [this] using LString.mk t cs hb⟩

end JsonVerif
