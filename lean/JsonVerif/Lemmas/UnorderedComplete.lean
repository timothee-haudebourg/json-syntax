import JsonVerif.Lemmas.PermEqLaws
import JsonVerif.Lemmas.Unordered
/-!
# Completeness of `unordered_eq` (C15): the greedy one-to-one matching never misses

Values related by `PermEq` form equivalence classes (`PermEq.symm`, `PermEq.trans`), so taking the
FIRST not-yet-paired entry of `other` with the same key and a related value is as good as taking any.
-/
namespace JsonVerif

theorem ueqPick_of_mem {f : JValue → Bool} {k : List Char} {y : JValue} :
    ∀ {b : List Entry}, (k, y) ∈ b → f y = true → ∃ b', ueqPick f k b = some b'
  | (l, z) :: b, h, hf => by
    rw [ueqPick]
    split
    · exact ⟨b, rfl⟩
    · rename_i hne
      rcases List.mem_cons.mp h with e | e
      · cases e
        exact absurd (Bool.and_eq_true_iff.mpr ⟨beq_self_eq_true k, hf⟩) hne
      · obtain ⟨b', hb'⟩ := ueqPick_of_mem e hf
        exact ⟨(l, z) :: b', by rw [hb']; rfl⟩

/-- replace the value of one right-hand entry by a value with the same partners -/
theorem PW.replace {y y' : JValue} {k : List Char} (hrel : ∀ z, PermEq z y' → PermEq z y) :
    ∀ {a d1 d2 : List Entry}, PW a (d1 ++ (k, y') :: d2) → PW a (d1 ++ (k, y) :: d2)
  | _, [], _, h => by
    cases h with
    | cons hxy hrest => exact .cons (hrel _ hxy) hrest
  | _, e :: d1, _, h => by
    cases h with
    | cons hxy hrest => exact .cons hxy (PW.replace hrel hrest)

/-- Any partner will do: from `PermEqM ((k, x) :: a) b` one may take out of `b` whichever entry has
    the key `k` and a value related to `x`; what is left is still related to `a`. -/
theorem PermEqM.remove {k : List Char} {x y' : JValue} {a c1 c2 : List Entry}
    (h : PermEqM ((k, x) :: a) (c1 ++ (k, y') :: c2)) (hxy' : PermEq x y') :
    PermEqM a (c1 ++ c2) := by
  obtain ⟨_, hpw, hp⟩ := h.toPW
  cases hpw with
  | @cons _ _ y _ b0 hxy hpw0 =>
    have hperm : ((k, y) :: b0).Perm ((k, y') :: (c1 ++ c2)) := hp.trans List.perm_middle
    rcases List.mem_cons.mp (hperm.symm.subset List.mem_cons_self) with e | e
    · cases e; exact .ofPW hpw0 ((List.perm_cons _).mp hperm)
    · -- the entry taken out is not the one `x` was paired with: pair `x` with it, and its former
      -- partner with `y`; whatever is related to `y'` is related to `y`, through `x`
      obtain ⟨d1, d2, rfl⟩ := List.append_of_mem e
      have hrel : ∀ z, PermEq z y' → PermEq z y := fun z hz =>
        .trans z y' y hz (.trans y' x y (.symm x y' hxy') hxy)
      refine .ofPW (PW.replace hrel hpw0) ?_
      have : ((k, y') :: (k, y) :: (d1 ++ d2)).Perm ((k, y') :: (c1 ++ c2)) :=
        (List.Perm.swap ..).trans ((List.Perm.cons _ List.perm_middle.symm).trans hperm)
      exact List.perm_middle.trans ((List.perm_cons _).mp this)

-- The recursion is structural on the left value `a` (its items, its entries and their values), not
-- on the derivation: `h.remove …` below is not a part of `h`.
mutual
theorem ueq_complete : ∀ (a b : JValue), PermEq a b → ueq a b = true
  | _, _, .null => rfl
  | _, _, .bool _ => ueq_refl _
  | _, _, .number _ => ueq_refl _
  | _, _, .string _ => ueq_refl _
  | _, _, .array hl => ueqL_complete _ _ hl
  | _, _, .object hm => Bool.and_eq_true_iff.mpr ⟨beq_iff_eq.mpr hm.length, ueqM_complete _ _ hm⟩
theorem ueqL_complete : ∀ (a b : List JValue), PermEqL a b → ueqL a b = true
  | _, _, .nil => rfl
  | _, _, .cons hxy hr => Bool.and_eq_true_iff.mpr ⟨ueq_complete _ _ hxy, ueqL_complete _ _ hr⟩
theorem ueqM_complete : ∀ (a b : List Entry), PermEqM a b → ueqM a b = true
  | [], _, _ => rfl
  | (k, x) :: a, b, h => by
    -- the greedy pick finds SOME partner (the derivation names one), and any partner will do
    have ⟨b', hpick⟩ : ∃ b', ueqPick (ueq x) k b = some b' := by
      cases h with
      | cons hxy _ =>
        exact ueqPick_of_mem (List.mem_append_right _ List.mem_cons_self) (ueq_complete x _ hxy)
    obtain ⟨c1, y', c2, rfl, hfy', rfl⟩ := ueqPick_some hpick
    rw [ueqM, hpick]
    exact ueqM_complete a _ (h.remove (ueq_sound x y' hfy'))
end

theorem ueq_iff (a b : JValue) : ueq a b = true ↔ PermEq a b :=
  ⟨ueq_sound a b, ueq_complete a b⟩

end JsonVerif
