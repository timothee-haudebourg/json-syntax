import JsonVerif.Lemmas.SerdeJson
import JsonVerif.Lemmas.PermEqLaws
/-!
# json-syntax → serde_json → json-syntax (C18, second clause)

For a value whose objects have no duplicate keys, converting into `serde_json::Value` and back
gives the value with (a) each number replaced by what the two number conversions make of it
(`numImg`) and (b) the members of every object in the map's order — i.e. a value equal up to the
order of entries (`PermEq`) to the original with its numbers respelled. No property of the key
order `lt` is needed: whatever position `BTreeMap::insert` picks, an absent key is inserted once.
-/
namespace JsonVerif
variable {SNum : Type}

/-- a number after the trip there and back: the text of its serde_json number, or `null` when
    it has none (magnitude beyond `f64`) -/
def numImg (disp : SNum → List Char) (conv : List Char → Option SNum) (n : List Char) : JValue :=
  match conv n with
  | some m => .number (disp m)
  | none => .null

mutual
def substNum (f : List Char → JValue) : JValue → JValue
  | .number n => f n
  | .array xs => .array (substNumL f xs)
  | .object es => .object (substNumM f es)
  | v => v
def substNumL (f : List Char → JValue) : List JValue → List JValue
  | [] => []
  | x :: xs => substNum f x :: substNumL f xs
def substNumM (f : List Char → JValue) : List (List Char × JValue) → List (List Char × JValue)
  | [] => []
  | (k, x) :: es => (k, substNum f x) :: substNumM f es
end

mutual
def DistinctKeys : JValue → Prop
  | .array xs => DistinctKeysL xs
  | .object es => DistinctKeysM es ∧ (es.map (·.1)).Nodup
  | _ => True
def DistinctKeysL : List JValue → Prop
  | [] => True
  | x :: xs => DistinctKeys x ∧ DistinctKeysL xs
def DistinctKeysM : List (List Char × JValue) → Prop
  | [] => True
  | (_, x) :: es => DistinctKeys x ∧ DistinctKeysM es
end

theorem mapInsert_perm (lt : List Char → List Char → Bool) (k : List Char) (v : SJ SNum) :
    ∀ acc : List (List Char × SJ SNum), k ∉ acc.map (·.1) → (mapInsert lt k v acc).Perm ((k, v) :: acc)
  | [], _ => .refl _
  | (l, w) :: r, h => by
    have hkl : (k == l) = false := beq_eq_false_iff_ne.mpr fun e => h (e ▸ List.mem_cons_self)
    have hr : k ∉ r.map (·.1) := fun hh => h (List.mem_cons_of_mem _ hh)
    simp only [mapInsert, hkl, Bool.false_eq_true, ↓reduceIte]
    split
    · exact .refl _
    · exact ((mapInsert_perm lt k v r hr).cons (l, w)).trans (List.Perm.swap _ _ _)

theorem fromSjM_eq_map (disp : SNum → List Char) :
    ∀ es : List (List Char × SJ SNum), fromSjM disp es = es.map (fun e => (e.1, fromSj disp e.2))
  | [] => rfl
  | (k, x) :: es => by simp [fromSjM, fromSjM_eq_map disp es]

theorem intoSjM_perm (lt : List Char → List Char → Bool) (conv : List Char → Option SNum) :
    ∀ (es : List (List Char × JValue)) (acc : List (List Char × SJ SNum)),
      (acc.map (·.1) ++ es.map (·.1)).Nodup →
      (intoSjM lt conv es acc).Perm (acc ++ es.map (fun e => (e.1, intoSj lt conv e.2)))
  | [], acc, _ => by simp only [intoSjM, List.map_nil, List.append_nil]; exact .refl _
  | (k, x) :: es, acc, h => by
    have hk : k ∉ acc.map (·.1) := fun hh =>
      (List.nodup_append.mp h).2.2 k hh k List.mem_cons_self rfl
    have hp := mapInsert_perm lt k (intoSj lt conv x) acc hk
    have hnd : ((mapInsert lt k (intoSj lt conv x) acc).map (·.1) ++ es.map (·.1)).Nodup := by
      have hp' : ((mapInsert lt k (intoSj lt conv x) acc).map (·.1) ++ es.map (·.1)).Perm
          (acc.map (·.1) ++ ((k, x) :: es).map (·.1)) := by
        refine ((hp.map (·.1)).append_right _).trans ?_
        simp only [List.map_cons, List.cons_append]
        exact List.perm_middle.symm
      exact hp'.nodup_iff.mpr h
    rw [intoSjM]
    exact (intoSjM_perm lt conv es _ hnd).trans ((hp.append_right _).trans List.perm_middle.symm)

mutual
theorem back_permEq (lt : List Char → List Char → Bool) (disp : SNum → List Char)
    (conv : List Char → Option SNum) :
    ∀ v : JValue, DistinctKeys v →
      PermEq (substNum (numImg disp conv) v) (fromSj disp (intoSj lt conv v)) := by
  intro v h
  cases v with
  | null => exact .null
  | bool b => exact .bool b
  | string s => exact .string s
  | number n =>
    simp only [substNum, numImg, intoSj]
    cases conv n with
    | none => exact .null
    | some m => exact .number _
  | array xs =>
    simp only [substNum, intoSj, fromSj]
    exact .array (back_permEqL lt disp conv xs h)
  | object es =>
    simp only [substNum, intoSj, fromSj]
    refine .object (PermEqM.ofPW (back_pw lt disp conv es h.1) ?_)
    have hp := intoSjM_perm lt conv es [] h.2
    rw [fromSjM_eq_map, fromSjM_eq_map]
    simpa using (hp.map (fun e => (e.1, fromSj disp e.2))).symm
theorem back_permEqL (lt : List Char → List Char → Bool) (disp : SNum → List Char)
    (conv : List Char → Option SNum) :
    ∀ xs : List JValue, DistinctKeysL xs →
      PermEqL (substNumL (numImg disp conv) xs) (fromSjL disp (intoSjL lt conv xs)) := by
  intro xs h
  cases xs with
  | nil => exact .nil
  | cons x xs =>
    simp only [substNumL, intoSjL, fromSjL]
    exact .cons (back_permEq lt disp conv x h.1) (back_permEqL lt disp conv xs h.2)
theorem back_pw (lt : List Char → List Char → Bool) (disp : SNum → List Char)
    (conv : List Char → Option SNum) :
    ∀ es : List (List Char × JValue), DistinctKeysM es →
      PW (substNumM (numImg disp conv) es)
        (fromSjM disp (es.map (fun e => (e.1, intoSj lt conv e.2)))) := by
  intro es h
  cases es with
  | nil => exact .nil
  | cons e es =>
    obtain ⟨k, x⟩ := e
    simp only [substNumM, List.map_cons, fromSjM]
    exact .cons (back_permEq lt disp conv x h.1) (back_pw lt disp conv es h.2)
end

end JsonVerif
