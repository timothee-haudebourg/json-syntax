import JsonVerif.Lemmas.LexProg
import JsonVerif.Lemmas.Step
/-! What the frame properties of the lexers give for the machine: what a successful run consumed,
    where its errors point, what its surrogate errors blame. -/
namespace JsonVerif

theorem Goto.adv {o k v s k' v' s'} (h : Goto o k v s k' v' s') : Adv s s' := by
  cases h with
  | frag _ h => exact parseFragment_adv h
  | item => exact Adv.refl _
  | entry h => exact adv_end h
  | arr h => exact contArray_adv h
  | obj h => exact contObject_adv h

theorem run_ok {o : ParseOptions} {stack : List StackItem} {value : Option JValue} {s : PS}
    {v : JValue} {s' : PS} (h : run o stack value s = .ok (v, s')) :
    Adv s s' ∧ s'.rest = [] ∧ s.bad = false := by
  induction stack, value, s using run_induct o with
  | halt hh =>
    rw [run_halt hh] at h
    cases hh <;> try cases h
    obtain ⟨hws, hr, _⟩ := finish_ok.1 h
    refine ⟨skipWs_adv hws, hr, ?_⟩
    -- at the end of the input `skipWs` succeeds only on a stream that did not fail
    obtain ⟨rfl, hb⟩ := skipWs_ok.1 hws
    exact hb hr
  | goto hg ih =>
    rw [run_goto hg] at h
    obtain ⟨a, b, c⟩ := ih h
    exact ⟨hg.adv.trans a, b, hg.adv.2.1 ▸ c⟩

theorem run_error_induct {o : ParseOptions} {P : PS → PErr → Prop}
    (halt : ∀ {k v s e}, Halt o k v s (.error e) → P s e)
    (lift : ∀ {s s' e}, Adv s s' → P s' e → P s e)
    {stack : List StackItem} {value : Option JValue} {s : PS} {e : PErr}
    (h : run o stack value s = .error e) : P s e := by
  induction stack, value, s using run_induct o with
  | halt hh => rw [run_halt hh] at h; subst h; exact halt hh
  | goto hg ih => rw [run_goto hg] at h; exact lift hg.adv (ih h)

theorem Lex.WB.finish (v : JValue) : WB (finish v) := finish_eq v ▸
  .bind .skipWs fun _ => .peek fun _ => .ite (.pure v) .unexpectedHere

/-- Where an iteration halts with an error, it is the error of a well-behaved lexer, and whenever
    that lexer fails the iteration halts with its error: so what `WB` says of the lexer on another
    continuation of the input (`loc_err`) is said of `run` (`run_local_err`). -/
theorem Halt.wb {o k v s e} (h : Halt o k v s (.error e)) :
    ∃ (α : Type) (m : Lex α), Lex.WB m ∧ m s = .error e ∧
      ∀ {s' e'}, m s' = .error e' → run o k v s' = .error e' := by
  -- `Halt.finish` carries the whole result of `finish`, error or not: name it before the case split
  generalize hr : Except.error e = r at h
  cases h with
  | finish => exact ⟨_, _, .finish _, hr.symm, (run_halt .finish).trans⟩
  | frag hk h1 => cases hr; exact ⟨_, _, .parseFragment o _, h1, fun h => run_halt (.frag hk h)⟩
  | entry h1 =>
    cases hr
    exact ⟨_, _, .endFragment _, Lex.lift_error.2 h1, fun h => run_halt (.entry (Lex.lift_error.1 h))⟩
  | arr h1 => cases hr; exact ⟨_, _, .contArray _, h1, fun h => run_halt (.arr h)⟩
  | obj h1 => cases hr; exact ⟨_, _, .contObject o _, h1, fun h => run_halt (.obj h)⟩

theorem run_err {o : ParseOptions} {stack : List StackItem} {value : Option JValue} {s : PS}
    {e : PErr} (h : run o stack value s = .error e) : ErrOkS s e :=
  run_error_induct (fun hh => have ⟨_, _, w, he, _⟩ := hh.wb; w.err he) (fun ha he => he.lift ha) h

theorem run_in {o : ParseOptions} {stack : List StackItem} {value : Option JValue} {s : PS}
    {e : PErr} (h : run o stack value s = .error e) : ErrInS s e :=
  run_error_induct (fun hh => have ⟨_, _, w, he, _⟩ := hh.wb; w.errIn he) (fun ha he => he.lift ha) h

end JsonVerif
