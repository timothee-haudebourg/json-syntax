import JsonVerif.Lemmas.ObjRemove
/-!
# `push_front`, and the removal loop with the operations built on it (C06)

`push_front` is the renumbering of Lemmas/ObjRemove.lean at index 0. The removal iterators are one
loop, `drain`: `pick` names the next entry to go and `remove_at` takes it out. `drain_spec`: as long
as `pick` names the first `k`-entry at or after `m`, the loop removes exactly the `k`-entries from `m`
on. `remove` picks with `index_of` (`m = 0`); `insert` and `insert_front` pick with
`redundant_index_of` behind the first `k`-entry at `p` (`m = p + 1`).
-/
namespace JsonVerif
open Obj

variable {es es' : List (Key × JValue)} {bs : List Bucket} {k : Key} {o : Obj}

/-- `(e :: es).eraseIdx 0` reduces to `es`, so this is `posMask_ne` at index 0 -/
theorem posMask_cons (e : Key × JValue) (es : List (Key × JValue)) (k : Key) :
    posMask (· != 0) k (e :: es) = (posOf k es).map (su 0) :=
  posMask_ne (e :: es) 0 k

theorem indexShiftUp_inv (h : InvMask (fun _ => true) es bs) (e : Key × JValue) :
    InvMask (· != 0) (e :: es) (indexShiftUp bs 0) := by
  refine h.map (fun b hb => ⟨rfl, ?_⟩) fun k hk hn => ?_
  · rw [b.shiftUp_all, h.exact b hb, posMask_cons, posMask_true]
  · rw [posMask_cons, ← posMask_true, hn] at hk; exact hk rfl

theorem pushFront_inv {o : Obj} (h : Inv o) (k : Key) (v : JValue) :
    ∃ o' fresh, o.pushFront k v = some (o', fresh) ∧ Inv o' ∧ o'.entries = (k, v) :: o.entries ∧
      (fresh = true ↔ posOf k o.entries = []) := by
  obtain ⟨bs', fresh, hins, hinv, hfresh⟩ :=
    indexInsert_inv (j := 0) (k := k) (indexShiftUp_inv h (k, v)) rfl
  refine ⟨⟨_, bs'⟩, fresh, by simp [Obj.pushFront, hins], hinv.congr fun i _ => ?_, rfl, ?_⟩
  · cases i <;> rfl
  · rw [hfresh, posMask_cons, List.map_eq_nil_iff]

def FirstFrom (k : Key) (m : Nat) (es : List (Key × JValue)) (q : Nat) : Prop :=
  m ≤ q ∧ keyAt es q = some k ∧ ∀ j, m ≤ j → j < q → keyAt es j ≠ some k

def NoneFrom (k : Key) (m : Nat) (es : List (Key × JValue)) : Prop :=
  ∀ j, m ≤ j → keyAt es j ≠ some k

/-- the test `fun e => e.1 == k` of `getEntries_eq`, named (the two unfold to each other) -/
def hasKey (k : Key) (e : Key × JValue) : Bool := e.1 == k

theorem hasKey_head {x : Key × JValue} : hasKey k x = true ↔ keyAt (x :: es) 0 = some k := by
  simp [hasKey, keyAt]

theorem filter_none_from : ∀ {m : Nat} {es : List (Key × JValue)}, NoneFrom k m es →
    (es.drop m).filter (hasKey k) = [] ∧ (es.drop m).filter (fun e => !hasKey k e) = es.drop m
  | _, [], _ => by simp
  | m + 1, x :: es, h => filter_none_from (m := m) (es := es) fun j hj => h (j + 1) (Nat.succ_le_succ hj)
  | 0, x :: es, h => by
    have hx : hasKey k x = false := Bool.eq_false_iff.mpr fun hx => h 0 (Nat.le_refl _) (hasKey_head.mp hx)
    have := filter_none_from (m := 0) (es := es) fun j _ => h (j + 1) (Nat.zero_le _)
    simp only [List.drop_zero, List.filter_cons, hx, Bool.not_false, Bool.false_eq_true, ↓reduceIte] at this ⊢
    exact ⟨this.1, congrArg _ this.2⟩

/-- erasing the first `k`-entry at or after `m`: the prefix and the other keys' entries stay, the
    `k`-entries lose their first one -/
theorem filter_first_from : ∀ {m q : Nat} {es : List (Key × JValue)}, FirstFrom k m es q →
    ∃ e, es[q]? = some e ∧
      (es.eraseIdx q).take m = es.take m ∧
      ((es.eraseIdx q).drop m).filter (fun e => !hasKey k e) = (es.drop m).filter (fun e => !hasKey k e) ∧
      (es.drop m).filter (hasKey k) = e :: ((es.eraseIdx q).drop m).filter (hasKey k)
  | _, _, [], h => nomatch h.2.1
  | m + 1, 0, _ :: _, h => nomatch h.1
  | m + 1, q + 1, x :: es, h => by
    obtain ⟨e, h1, h2, h3, h4⟩ := filter_first_from (m := m) (q := q) (es := es)
      ⟨Nat.le_of_succ_le_succ h.1, h.2.1, fun j a b => h.2.2 (j + 1) (Nat.succ_le_succ a) (Nat.succ_lt_succ b)⟩
    exact ⟨e, h1, congrArg (x :: ·) h2, h3, h4⟩
  | 0, 0, x :: es, h => by
    have hx : hasKey k x = true := hasKey_head.mpr h.2.1
    exact ⟨x, rfl, rfl, by simp [hx], by simp [hx]⟩
  | 0, q + 1, x :: es, h => by
    have hx : hasKey k x = false := Bool.eq_false_iff.mpr fun hx =>
      h.2.2 0 (Nat.le_refl _) (Nat.succ_pos q) (hasKey_head.mp hx)
    obtain ⟨e, h1, _, h3, h4⟩ := filter_first_from (m := 0) (q := q) (es := es)
      ⟨Nat.zero_le _, h.2.1, fun j _ b => h.2.2 (j + 1) (Nat.zero_le _) (Nat.succ_lt_succ b)⟩
    simp only [List.drop_zero, List.eraseIdx_cons_succ, List.filter_cons, hx, Bool.not_false, Bool.false_eq_true, ↓reduceIte] at h3 h4 ⊢
    exact ⟨e, h1, rfl, congrArg _ h3, h4⟩

/-- the generic removal loop: as long as `pick` names the first `k`-entry at or after `m`, the loop
    removes exactly the `k`-entries at or after `m`, in order, and nothing else. The first `m` entries
    never change; `T` names them, so that `hpick` may use what they are (the `pick` of `insert` reads
    the key at position `m - 1`) -/
theorem drain_spec {k : Key} {m : Nat} {pick : Obj → Option Nat} {T : List (Key × JValue)}
    (hpick : ∀ o : Obj, Inv o → o.entries.take m = T →
      (∃ q, pick o = some q ∧ FirstFrom k m o.entries q) ∨ (pick o = none ∧ NoneFrom k m o.entries)) :
    ∀ (n : Nat) (o : Obj) (acc : List (Key × JValue)), Inv o → o.entries.take m = T → o.entries.length ≤ n →
      ∃ o', drain pick n o acc = some (o', acc ++ (o.entries.drop m).filter (hasKey k)) ∧ Inv o' ∧
        o'.entries = o.entries.take m ++ (o.entries.drop m).filter (fun e => !hasKey k e) := by
  intro n
  induction n with
  | zero =>
    intro o acc h _ hn
    have : o.entries = [] := List.eq_nil_of_length_eq_zero (by omega)
    exact ⟨o, by simp [drain, this], h, by simp [this]⟩
  | succ n ih =>
    intro o acc h hT hn
    rcases hpick o h hT with ⟨q, hq, hfirst⟩ | ⟨hnone, hnf⟩
    · obtain ⟨e, heq, htake, hne, heq'⟩ := filter_first_from hfirst
      obtain ⟨o1, hr, h1, he1⟩ := removeAt_inv h q
      obtain ⟨o', hd, h', he'⟩ := ih o1 (acc ++ [e]) h1 (by rw [he1, htake, hT])
        (by rw [he1, List.length_eraseIdx_of_lt (lt_of_keyAt hfirst.2.1)]; omega)
      refine ⟨o', ?_, h', ?_⟩
      · simp only [drain, hq, hr, heq]
        rw [hd, he1, heq']; simp
      · rw [he', he1, htake, hne]
    · obtain ⟨f1, f2⟩ := filter_none_from hnf
      refine ⟨o, by simp [drain, hnone, f1], h, ?_⟩
      rw [f2, List.take_append_drop]

theorem posMask_ge_head (k : Key) (m : Nat) (es : List (Key × JValue)) :
    (∃ q, (posMask (fun i => decide (m ≤ i)) k es).head? = some q ∧ FirstFrom k m es q) ∨
    ((posMask (fun i => decide (m ≤ i)) k es).head? = none ∧ NoneFrom k m es) := by
  have hm : ∀ j, j ∈ posMask (fun i => decide (m ≤ i)) k es ↔ keyAt es j = some k ∧ m ≤ j := fun j => by
    simp [mem_posMask]
  have hs := posMask_sorted (fun i => decide (m ≤ i)) k es
  cases hp : posMask (fun i => decide (m ≤ i)) k es with
  | nil => exact .inr ⟨rfl, fun j hj hkj => List.not_mem_nil (hp ▸ (hm j).mpr ⟨hkj, hj⟩)⟩
  | cons q r =>
    rw [hp] at hm hs
    have hq := (hm q).mp List.mem_cons_self
    refine .inl ⟨q, rfl, hq.2, hq.1, fun j hj hjq hkj => ?_⟩
    rcases List.mem_cons.mp ((hm j).mpr ⟨hkj, hj⟩) with e | e
    · omega
    · have := (List.pairwise_cons.mp hs).1 j e; omega

theorem posMask_ge_zero (k : Key) (es : List (Key × JValue)) :
    posMask (fun i => decide (0 ≤ i)) k es = posOf k es := by
  simp [posMask]

theorem firstFrom_of_head {p : Nat} (hp : (posOf k es).head? = some p) : FirstFrom k 0 es p := by
  rcases posMask_ge_zero k es ▸ posMask_ge_head k 0 es with ⟨q, hq, hf⟩ | ⟨hn, _⟩
  · exact Option.some.inj (hp.symm.trans hq) ▸ hf
  · exact nomatch hp.symm.trans hn

theorem remove_inv {o : Obj} (h : Inv o) (k : Key) :
    ∃ o', o.remove k = some (o', o.entries.filter (hasKey k)) ∧ Inv o' ∧
      o'.entries = o.entries.filter (fun e => !hasKey k e) := by
  have := drain_spec (k := k) (m := 0) (pick := fun o => o.indexOf k) (T := [])
    (fun o' h' _ => by rw [indexOf_eq h' k, ← posMask_ge_zero]; exact posMask_ge_head k 0 _)
    o.entries.length o [] h rfl (Nat.le_refl _)
  simpa [Obj.remove] using this

/-- after the first position `p` of a key, the second stored position is the first one after `p` -/
theorem posOf_second {p : Nat} (hp : FirstFrom k 0 es p) :
    (posOf k es)[1]? = (posMask (fun i => decide (p + 1 ≤ i)) k es).head? := by
  have hs := posOf_sorted k es
  have hm : ∀ j, j ∈ posOf k es ↔ keyAt es j = some k := fun j => mem_posOf
  unfold posMask
  cases hl : posOf k es with
  | nil => rfl
  | cons a r =>
    rw [hl] at hs hm
    have hc := List.pairwise_cons.mp hs
    have hap : a = p := by
      rcases List.mem_cons.mp ((hm p).mpr hp.2.1) with e | e
      · exact e.symm
      · exact absurd ((hm a).mp List.mem_cons_self) (hp.2.2 a (Nat.zero_le _) (hc.1 p e))
    subst hap
    -- the filter drops the head `a = p` and keeps every later position, all of them above `a`
    rw [List.filter_cons_of_neg (by simp),
      (List.filter_eq_self (p := fun i => decide (a + 1 ≤ i))).mpr fun j hj => decide_eq_true (hc.1 j hj)]
    simp [List.head?_eq_getElem?]

theorem FirstFrom.congr {m q : Nat} (h : FirstFrom k m es q)
    (hkey : ∀ j, j ≤ q → keyAt es' j = keyAt es j) : FirstFrom k m es' q :=
  ⟨h.1, hkey q (Nat.le_refl _) ▸ h.2.1, fun j a b => hkey j (by omega) ▸ h.2.2 j a b⟩

/-- the loop shared by `insert` and `insert_front`: with the first `k`-entry at `p`, remove every
    later `k`-entry -/
theorem drain_redundant (h : Inv o) {p : Nat} (hp : FirstFrom k 0 o.entries p)
    (acc : List (Key × JValue)) :
    ∃ o', drain (fun o => (keyAt o.entries p).bind (fun key => o.redundantIndexOf key)) o.entries.length o acc =
        some (o', acc ++ (o.entries.drop (p + 1)).filter (hasKey k)) ∧ Inv o' ∧
      o'.entries = o.entries.take (p + 1) ++ (o.entries.drop (p + 1)).filter (fun e => !hasKey k e) := by
  refine drain_spec (k := k) (m := p + 1) (T := o.entries.take (p + 1)) ?_ o.entries.length o acc h rfl (Nat.le_refl _)
  intro o' h' hT
  have hp' : FirstFrom k 0 o'.entries p := hp.congr fun j hj => by
    unfold keyAt
    rw [← List.getElem?_take_of_lt (Nat.lt_succ_of_le hj), hT, List.getElem?_take_of_lt (Nat.lt_succ_of_le hj)]
  simp only [hp'.2.1, Option.bind_some, redundantIndexOf_eq h' k, posOf_second hp']
  exact posMask_ge_head k (p + 1) o'.entries

theorem insert_inv {o : Obj} (h : Inv o) (k : Key) (v : JValue) :
    (posOf k o.entries = [] → ∃ o', o.insert k v = some (o', none) ∧ Inv o' ∧
        o'.entries = o.entries ++ [(k, v)]) ∧
    (∀ p, (posOf k o.entries).head? = some p → ∃ o' old, o.entries[p]? = some old ∧
        o.insert k v = some (o', some (old :: (o.entries.drop (p + 1)).filter (hasKey k))) ∧ Inv o' ∧
        o'.entries = o.entries.take p ++ (k, v) :: (o.entries.drop (p + 1)).filter (fun e => !hasKey k e)) := by
  constructor
  · intro hnone
    obtain ⟨o', fresh, hpush, h', he, _⟩ := push_inv h k v
    exact ⟨o', by simp [Obj.insert, indexOf_eq h k, hnone, hpush], h', he⟩
  · intro p hp
    have hfirst := firstFrom_of_head hp
    have hplt := lt_of_keyAt hfirst.2.1
    have hold := List.getElem?_eq_getElem hplt
    obtain ⟨o', hd, h', he'⟩ := drain_redundant (set_inv h hfirst.2.1 v)
      (hfirst.congr fun j _ => keyAt_set_value hfirst.2.1 v j) [o.entries[p]]
    -- the overwritten entry list, cut after position `p`
    have htake : (o.entries.set p (k, v)).take (p + 1) = o.entries.take p ++ [(k, v)] := by
      rw [List.take_succ_eq_append_getElem (by rwa [List.length_set]),
        List.take_set_of_le (Nat.le_refl p), List.getElem_set_self]
    rw [List.drop_set_of_lt (Nat.lt_succ_self p)] at hd he'
    refine ⟨o', o.entries[p], hold, ?_, h', ?_⟩
    · simp only [Obj.insert, indexOf_eq h k, hp, hold, hd]
      rfl
    · rw [he', htake, List.append_assoc]
      rfl

theorem drain_front (h : Inv o) {v : JValue} {rest : List (Key × JValue)}
    (he : o.entries = (k, v) :: rest) (acc : List (Key × JValue)) :
    ∃ o', drain (fun o => (keyAt o.entries 0).bind (fun key => o.redundantIndexOf key))
        (rest.length + 1) o acc = some (o', acc ++ rest.filter (hasKey k)) ∧ Inv o' ∧
      o'.entries = (k, v) :: rest.filter (fun e => !hasKey k e) := by
  have := drain_redundant h (k := k) (p := 0)
    (he ▸ ⟨Nat.le_refl _, rfl, fun j _ hj => absurd hj (Nat.not_lt_zero j)⟩) acc
  simpa [he] using this

theorem insertFront_inv {o : Obj} (h : Inv o) (k : Key) (v : JValue) :
    ∃ o', o.insertFront k v = some (o', o.entries.filter (hasKey k)) ∧ Inv o' ∧
      o'.entries = (k, v) :: o.entries.filter (fun e => !hasKey k e) := by
  unfold Obj.insertFront
  by_cases hhead : ∃ v0 rest, o.entries = (k, v0) :: rest
  · -- the first entry carries `k`: it is overwritten in place
    obtain ⟨v0, rest, hes⟩ := hhead
    obtain ⟨o', hd, h', he'⟩ := drain_front (rest := rest)
      (hes ▸ set_inv h (k := k) (p := 0) (by rw [hes]; rfl) v) rfl [(k, v0)]
    refine ⟨o', ?_, h', ?_⟩
    · simpa [hes, hasKey] using hd
    · simpa [hes, hasKey] using he'
  · -- otherwise `push_front`
    obtain ⟨o1, _, hpf, h1, he1, _⟩ := pushFront_inv h k v
    obtain ⟨o', hd, h', he'⟩ := drain_front h1 he1 []
    refine ⟨o', ?_, h', he'⟩
    rw [List.nil_append] at hd
    rw [← hd]
    split
    · rename_i k0 v0 rest hes
      rw [if_neg fun e : k0 = k => hhead ⟨v0, rest, e ▸ hes⟩]
      simp only [hpf, he1, List.length_cons]
    · simp only [hpf, he1, List.length_cons]

theorem removeUnique_inv (h : Inv o) (k : Key) :
    ∃ o', o.removeUnique k = some (o', match o.entries.filter (hasKey k) with
        | [] => .none
        | [e] => .one e
        | a :: b :: _ => .dup a b) ∧ Inv o' ∧
      o'.entries = o.entries.filter (fun e => !hasKey k e) := by
  obtain ⟨o', hr, h', he'⟩ := remove_inv h k
  refine ⟨o', ?_, h', he'⟩
  simp only [Obj.removeUnique, hr, Option.map_some]
  generalize List.filter (hasKey k) o.entries = l
  cases l with
  | nil => rfl
  | cons a r => cases r <;> rfl

theorem getOrInsertWith_inv (h : Inv o) (k : Key) (v : JValue) :
    ∃ o' r, o.getOrInsertWith k v = some (o', r) ∧ Inv o' ∧
      ((posOf k o.entries = [] ∧ o'.entries = o.entries ++ [(k, v)] ∧ r = v) ∨
       (∃ p e, (posOf k o.entries).head? = some p ∧ o.entries[p]? = some e ∧ o' = o ∧ r = e.2)) := by
  unfold Obj.getOrInsertWith
  rw [indexOf_eq h k]
  cases hp : (posOf k o.entries).head? with
  | none =>
    obtain ⟨o', fresh, hpush, h', he, _⟩ := push_inv h k v
    exact ⟨o', v, by simp [hpush], h', .inl ⟨List.head?_eq_none_iff.mp hp, he, rfl⟩⟩
  | some p =>
    have he := List.getElem?_eq_getElem (lt_of_keyAt (firstFrom_of_head hp).2.1)
    exact ⟨o, _, by simp [he], h, .inr ⟨p, _, rfl, he, rfl, rfl⟩⟩

end JsonVerif
