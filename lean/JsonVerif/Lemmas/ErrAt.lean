import JsonVerif.Lemmas.Adv
/-!
# Where errors point (C07, boundary clause)

`ErrOk l₀ p₀ bad e`: every offset carried by the error `e` is `p₀ + utf8Len w` for a prefix `w` of
the input `l₀` (a character boundary inside the input), an `Unexpected(p, c)` carries the character
found at that offset (`None` exactly at the end of the input), a span `(s, e)` has `s ≤ e`, and a
stream error sits at the end of the characters delivered by a failing stream (lemmas `X_errOk`).
-/
namespace JsonVerif

def Bdry (l₀ : List Char) (p₀ p : Nat) : Prop := ∃ w r, l₀ = w ++ r ∧ p = p₀ + utf8Len w

def BdryC (l₀ : List Char) (p₀ p : Nat) (c : Option Char) : Prop :=
  ∃ w r, l₀ = w ++ r ∧ p = p₀ + utf8Len w ∧ c = r.head?

def ErrOk (l₀ : List Char) (p₀ : Nat) (bad : Bool) : PErr → Prop
  | .unexpected p c => BdryC l₀ p₀ p c
  | .stream p => bad = true ∧ p = p₀ + utf8Len l₀
  | .invalidCodePoint s e _ => Bdry l₀ p₀ s ∧ Bdry l₀ p₀ e ∧ s ≤ e
  | .missingLow s e _ => Bdry l₀ p₀ s ∧ Bdry l₀ p₀ e ∧ s ≤ e
  | .invalidLow s e _ _ => Bdry l₀ p₀ s ∧ Bdry l₀ p₀ e ∧ s ≤ e
  | .panic => True

theorem Bdry.lift {l₀ p₀ l p q} (h : AdvL l₀ p₀ l p) (hb : Bdry l p q) : Bdry l₀ p₀ q := by
  obtain ⟨w0, e0, q0⟩ := h
  obtain ⟨w, r, e, hq⟩ := hb
  exact ⟨w0 ++ w, r, by rw [e0, e, List.append_assoc], by rw [hq, q0, utf8Len_append, Nat.add_assoc]⟩

theorem BdryC.lift {l₀ p₀ l p q c} (h : AdvL l₀ p₀ l p) (hb : BdryC l p q c) : BdryC l₀ p₀ q c := by
  obtain ⟨w0, e0, q0⟩ := h
  obtain ⟨w, r, e, hq, hc⟩ := hb
  exact ⟨w0 ++ w, r, by rw [e0, e, List.append_assoc], by rw [hq, q0, utf8Len_append, Nat.add_assoc], hc⟩

theorem Bdry.here (l : List Char) (p : Nat) : Bdry l p p := ⟨[], l, rfl, by simp⟩
theorem Bdry.of_adv {l₀ p₀ l p} (h : AdvL l₀ p₀ l p) : Bdry l₀ p₀ p := (Bdry.here l p).lift h
theorem Bdry.le {l₀ p₀ p} (h : Bdry l₀ p₀ p) : p₀ ≤ p := by obtain ⟨_, _, _, e⟩ := h; omega
theorem BdryC.here (l : List Char) (p : Nat) : BdryC l p p l.head? := ⟨[], l, rfl, by simp, rfl⟩

theorem ErrOk.lift {l₀ p₀ l p bad e} (h : AdvL l₀ p₀ l p) (he : ErrOk l p bad e) : ErrOk l₀ p₀ bad e := by
  cases e with
  | unexpected q c => exact BdryC.lift h he
  | stream q =>
    obtain ⟨_, e0, q0⟩ := h
    exact ⟨he.1, by rw [he.2, q0, e0, utf8Len_append, Nat.add_assoc]⟩
  | invalidCodePoint s e _ => exact ⟨he.1.lift h, he.2.1.lift h, he.2.2⟩
  | missingLow s e _ => exact ⟨he.1.lift h, he.2.1.lift h, he.2.2⟩
  | invalidLow s e _ _ => exact ⟨he.1.lift h, he.2.1.lift h, he.2.2⟩
  | panic => trivial

def ErrOkS (s : PS) (e : PErr) : Prop := ErrOk s.rest s.pos s.bad e

theorem ErrOkS.lift {s s' : PS} {e : PErr} (h : Adv s s') (he : ErrOkS s' e) : ErrOkS s e := by
  unfold ErrOkS at *; rw [← h.2.1]; exact ErrOk.lift h.1 he

theorem ErrOkS.pos_le {s : PS} {q : Nat} {c : Option Char} (h : ErrOkS s (.unexpected q c)) : s.pos ≤ q := by
  obtain ⟨_, _, _, hq, _⟩ := h; omega

theorem eofErrAt_errOk (bad : Bool) (pos : Nat) : ErrOk [] pos bad (eofErrAt bad pos) := by
  unfold eofErrAt
  split
  · rename_i hb; exact ⟨hb, by simp⟩
  · exact BdryC.here [] pos

theorem eofErr_errOk (s : PS) (h : s.rest = []) : ErrOkS s s.eofErr := by
  unfold ErrOkS
  rw [h, s.eofErr_eq]
  exact eofErrAt_errOk s.bad s.pos

theorem skipWs_errOk {s : PS} {e : PErr} (h : skipWs s = .error e) : ErrOkS s e := by
  obtain ⟨hr, hb, rfl⟩ := skipWs_error.1 h
  obtain ⟨_, ew, qw⟩ := skipWsL_adv s.rest s.pos
  rw [hr, List.append_nil] at ew
  exact ⟨hb, by rw [qw, ← ew]⟩

theorem numScan_errOk {ctx : Ctx} {bad : Bool} {l : List Char} {pos : Nat} {e : PErr}
    (h : numScan ctx bad l pos = .error e) : ErrOk l pos bad e := by
  rcases numScan_error_shape h with ⟨_, w, c, r, rfl, rfl⟩ | ⟨hb, rfl⟩ | rfl
  · exact ⟨w, c :: r, rfl, rfl, rfl⟩
  · exact ⟨hb, rfl⟩
  · exact ⟨l, [], (List.append_nil l).symm, rfl, rfl⟩

/-- the pending high surrogate was seen at a character boundary not after the current position -/
def HighOk (l₀ : List Char) (p₀ pos : Nat) (high : Option (Nat × Nat)) : Prop :=
  ∀ ph h, high = some (ph, h) → Bdry l₀ p₀ ph ∧ ph ≤ pos

theorem HighOk.none (l₀ : List Char) (p₀ pos : Nat) : HighOk l₀ p₀ pos none := by
  intro ph h hh; cases hh

/-- what an iteration of the string loop guarantees: `E` of its error, `H` (at the new offset) of the
    pending high surrogate it hands on -/
def StepSpec (H : Nat → Option (Nat × Nat) → Prop) (E : PErr → Prop) : StrStep → Prop
  | .err e => E e
  | .more _ hi _ p => H p hi
  | .done _ _ _ _ => True

/-- if every iteration that starts with `H`, anywhere in the input `(l₀, p₀)`, meets `StepSpec H E`, the
    error of a run that starts with `H` has `E` -/
theorem strLoopAux_stepSpec {o : ParseOptions} {bad : Bool} {l₀ : List Char} {p₀ : Nat}
    {H : Nat → Option (Nat × Nat) → Prop} {E : PErr → Prop}
    (step : ∀ {acc high l pos}, H pos high → AdvL l₀ p₀ l pos → StepSpec H E (strStep o bad acc high l pos))
    (panic : E .panic) {fuel acc : List Char} {high : Option (Nat × Nat)} {l : List Char} {pos : Nat} {e : PErr}
    (hh : H pos high) (hadv : AdvL l₀ p₀ l pos) (h : strLoopAux o bad fuel acc high l pos = .error e) : E e :=
  strLoopAux_error_inv (I := fun hi l' p' => H p' hi ∧ AdvL l₀ p₀ l' p') (Q := E)
    (fun acc hI hs => by
      have := step (acc := acc) hI.1 hI.2
      rw [hs] at this
      exact ⟨this, hI.2.trans (strStep_more_adv hs)⟩)
    (fun acc hI hs => by
      have := step (acc := acc) hI.1 hI.2
      rwa [hs] at this)
    panic h ⟨hh, hadv⟩

/-- the offset of the `u` of a `\uXXXX` read at `pos` -/
theorem Reads.unit_bdry {w : List Char} {cp : Nat} (hr : Reads w (.unit cp)) (r : List Char) (pos : Nat) :
    Bdry (w ++ r) pos (pos + 1) ∧ pos + 1 ≤ pos + utf8Len w := by
  cases hr
  exact ⟨⟨['\\'], _, rfl, rfl⟩, Nat.add_le_add_left (Nat.le_add_right 1 _) pos⟩

theorem strStep_errOk {o : ParseOptions} {bad : Bool} {acc : List Char} {high : Option (Nat × Nat)}
    {l : List Char} {pos : Nat} {l₀ : List Char} {p₀ : Nat}
    (hh : HighOk l₀ p₀ pos high) (hadv : AdvL l₀ p₀ l pos) :
    StepSpec (HighOk l₀ p₀) (ErrOk l₀ p₀ bad) (strStep o bad acc high l pos) := by
  rcases strStep_cases o bad acc high l pos with ⟨w, r, e, hr, rfl, hs⟩ | ⟨w, t, _, rfl, hs⟩ <;> rw [hs]
  · have hadv' : AdvL l₀ p₀ r (pos + utf8Len w) := hadv.trans ⟨w, rfl, rfl⟩
    have hp := Bdry.of_adv hadv'
    have hu : ∀ cp, e = .unit cp → Bdry l₀ p₀ (pos + 1) ∧ pos + 1 ≤ pos + utf8Len w := fun cp he => by
      subst he
      exact ⟨(hr.unit_bdry r pos).1.lift hadv, (hr.unit_bdry r pos).2⟩
    cases he : onElem o high pos (pos + utf8Len w) e with
    | out cs hi fin =>
      cases fin with
      | true => trivial
      | false =>
        intro ph h hhi
        subst hhi
        obtain ⟨_, he', rfl⟩ := onElem_high he
        exact hu _ he'
    | err x =>
      cases onElem_err he with
      | missingLow ph hv _ h1 => exact ⟨(hh ph hv h1).1, Bdry.of_adv hadv, (hh ph hv h1).2⟩
      | invalidLow ph hv cp => exact ⟨(hu cp rfl).1, hp, (hu cp rfl).2⟩
      | invalidPair ph hv cp h1 => exact ⟨(hh ph hv h1).1, hp, Nat.le_trans (hh ph hv h1).2 (Nat.le_add_right _ _)⟩
      | invalidUnit cp => exact ⟨(hu cp rfl).1, hp, (hu cp rfl).2⟩
  · refine ErrOk.lift (hadv.trans ⟨w, rfl, rfl⟩) ?_
    cases t with
    | nil => exact eofErrAt_errOk bad _
    | cons c t => exact BdryC.here _ _

theorem strScan_errOk {o : ParseOptions} {bad : Bool} {l : List Char} {pos : Nat} {e : PErr}
    (h : strScan o bad l pos = .error e) : ErrOk l pos bad e :=
  strLoopAux_stepSpec strStep_errOk trivial (HighOk.none _ _ _) (AdvL.refl _ _) (strScan_error.1 h)

end JsonVerif
