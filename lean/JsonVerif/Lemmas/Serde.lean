import JsonVerif.Model.Serde
/-!
# Serializing a `Value` with the crate's own serializer reproduces it (C17)

`mapNumbers`, `numNorm` and `Plain` defined here are also the vocabulary of C09 / C10 (canonical
number forms: Lemmas/CanonNum.lean) and of Lemmas/FromValue.lean.
-/
namespace JsonVerif

/-- what the serializer does to a number: plain 64-bit integer literals are re-rendered from the
    integer (`-0` ↦ `0`), everything else keeps its spelling -/
def numNorm (n : List Char) : List Char :=
  if n.contains '.' then n
  else match asI64 n with
    | .some i => intText i
    | .none => match asU64 n with
      | .some u => natText u
      | .none => n

mutual
def mapNumbers (f : List Char → List Char) : JValue → JValue
  | .number n => .number (f n)
  | .array xs => .array (mapNumbersL f xs)
  | .object es => .object (mapNumbersM f es)
  | v => v
def mapNumbersL (f : List Char → List Char) : List JValue → List JValue
  | [] => []
  | x :: xs => mapNumbers f x :: mapNumbersL f xs
def mapNumbersM (f : List Char → List Char) : List (List Char × JValue) → List (List Char × JValue)
  | [] => []
  | (k, x) :: es => (k, mapNumbers f x) :: mapNumbersM f es
end

mutual
/-- numbers are JSON numbers; no object has duplicate keys; no key is the private number token -/
def Plain : JValue → Prop
  | .number n => numberOk n = true
  | .array xs => PlainL xs
  | .object es => PlainM es ∧ (es.map (·.1)).Nodup ∧ numberToken ∉ es.map (·.1)
  | _ => True
def PlainL : List JValue → Prop
  | [] => True
  | x :: xs => Plain x ∧ PlainL xs
def PlainM : List (List Char × JValue) → Prop
  | [] => True
  | (_, x) :: es => Plain x ∧ PlainM es
end

theorem listInsert_fresh (es : List (List Char × JValue)) (k : List Char) (v : JValue)
    (h : k ∉ es.map (·.1)) : listInsert es k v = es ++ [(k, v)] := by
  have : es.any (fun e => e.1 == k) = false :=
    List.any_eq_false.2 fun e he hk => h (List.mem_map.mpr ⟨e, he, eq_of_beq hk⟩)
  simp only [listInsert, this, Bool.false_eq_true, ↓reduceIte]

/-- the key after a duplicate-free run of keys already inserted is new: `Object::insert` appends -/
theorem listInsert_next {es : List (List Char × JValue)} {k : List Char} {r : List (List Char)}
    (v : JValue) (h : (es.map (·.1) ++ k :: r).Nodup) : listInsert es k v = es ++ [(k, v)] :=
  listInsert_fresh es k v fun hk => (List.nodup_append.mp h).2.2 k hk k (by simp) rfl

theorem numberData_ser {n : List Char} (hn : numberOk n = true) :
    ∃ d, numberData n = .ok d ∧ ser d = .ok (.number (numNorm n)) := by
  -- the `$serde_json::private::Number` channel hands the spelling over as it is
  have hchan : ser (.struct [(numberToken, .str n)]) = .ok (.number n) := by
    simp only [ser, serFields, serStrNum, hn, List.isEmpty_nil, beq_self_eq_true, Bool.and_self, ↓reduceIte]
  unfold numberData numNorm
  split
  · exact ⟨_, rfl, hchan⟩
  · cases asI64 n with
    | some i => exact ⟨_, rfl, rfl⟩
    | none =>
      cases asU64 n with
      | some u => exact ⟨_, rfl, rfl⟩
      | none => exact ⟨_, rfl, hchan⟩

mutual
theorem valueData_ser : ∀ (v : JValue), Plain v →
    ∃ d, valueData v = .ok d ∧ ser d = .ok (mapNumbers numNorm v) := by
  intro v h
  cases v with
  | null => exact ⟨_, rfl, rfl⟩
  | bool _ => exact ⟨_, rfl, rfl⟩
  | number n => exact numberData_ser h
  | string _ => exact ⟨_, rfl, rfl⟩
  | array xs =>
    obtain ⟨l, h1, h2⟩ := valueDataL_ser xs h
    exact ⟨.seq l, by simp only [valueData, h1], by simp only [ser, h2, mapNumbers]⟩
  | object es =>
    obtain ⟨l, h1, h2⟩ := valueDataM_ser es [] h.1 h.2.1 h.2.2
    exact ⟨.map l, by simp only [valueData, h1], by simpa only [ser, mapNumbers, List.nil_append] using h2⟩
theorem valueDataL_ser : ∀ (xs : List JValue), PlainL xs →
    ∃ l, valueDataL xs = .ok l ∧ serL l = .ok (mapNumbersL numNorm xs) := by
  intro xs h
  cases xs with
  | nil => exact ⟨[], rfl, rfl⟩
  | cons x xs =>
    obtain ⟨d, h1, h2⟩ := valueData_ser x h.1
    obtain ⟨l, h3, h4⟩ := valueDataL_ser xs h.2
    exact ⟨d :: l, by simp only [valueDataL, h1, h3], by simp only [serL, h2, h4, mapNumbersL]⟩
/-- the map loop: `acc` = entries already inserted -/
theorem valueDataM_ser : ∀ (es acc : List (List Char × JValue)), PlainM es →
    ((acc ++ es).map (·.1)).Nodup → numberToken ∉ (acc ++ es).map (·.1) →
    ∃ l, valueDataM es = .ok l ∧ serMap l (.object acc) = .ok (.object (acc ++ mapNumbersM numNorm es)) := by
  intro es acc h hnd hnt
  cases es with
  | nil => exact ⟨[], rfl, by simp only [serMap, mapNumbersM, List.append_nil]⟩
  | cons e es =>
    obtain ⟨k, x⟩ := e
    obtain ⟨d, h1, h2⟩ := valueData_ser x h.1
    have hk : k ≠ numberToken := fun e =>
      hnt (List.mem_map.mpr ⟨(k, x), List.mem_append_right _ List.mem_cons_self, e⟩)
    -- the keys seen by the recursive call are the same list
    have hkeys : ((acc ++ [(k, mapNumbers numNorm x)]) ++ es).map (·.1) = (acc ++ (k, x) :: es).map (·.1) := by
      simp only [List.map_append, List.map_cons, List.append_assoc, List.cons_append, List.nil_append]
    obtain ⟨l, h3, h4⟩ := valueDataM_ser es (acc ++ [(k, mapNumbers numNorm x)]) h.2
      (hkeys ▸ hnd) (hkeys ▸ hnt)
    refine ⟨(.str k, d) :: l, by simp only [valueDataM, h1, h3], ?_⟩
    rw [List.map_append] at hnd
    simp only [serMap, serKey, beq_eq_false_iff_ne.mpr hk, Bool.and_false, Bool.false_eq_true, ↓reduceIte, h2,
      listInsert_next _ hnd, h4, mapNumbersM, List.append_assoc, List.cons_append, List.nil_append]
end

theorem toValue_plain (v : JValue) (h : Plain v) : toValue v = .ok (mapNumbers numNorm v) := by
  obtain ⟨d, h1, h2⟩ := valueData_ser v h
  simp only [toValue, h1, h2]

end JsonVerif
