import JsonVerif.Lemmas.LHub
import JsonVerif.Lemmas.GramComplete  -- nothing below uses it: imported so that it is built
import JsonVerif.Lemmas.PrintGram
import JsonVerif.Model.Entry
/-!
# Hub theorems: the parser of src/parse (as modelled) decides RFC 8259, and returns the content

The theorems of Lemmas/LHub.lean read at the RFC 8259 grammar: at the strict record `LDoc` is `GDoc`
(`ldoc_strict`), and a `GDoc` is an `LDoc o` for every `o` (`gdoc_ldoc`), so a valid text is accepted
with its content under every option record. `print_parse` closes the loop with the printer.
-/
namespace JsonVerif

theorem parse_sound {cs : List Char} {v : JValue} {cm : List CMEntry}
    (h : parseChars so cs false = .ok (v, cm)) : GDoc cs v :=
  (ldoc_strict cs v).1 (parse_sound_o so h)

/-- the lenient options change nothing on a valid text (they are a conservative extension) -/
theorem parse_complete (o : ParseOptions) {cs : List Char} {v : JValue} (h : GDoc cs v) :
    ∃ cm, parseChars o cs false = .ok (v, cm) :=
  parse_complete_o o (gdoc_ldoc o h)

/-- the grammar is unambiguous as far as content goes -/
theorem gdoc_unique {cs : List Char} {v v' : JValue} (h : GDoc cs v) (h' : GDoc cs v') : v = v' :=
  ldoc_unique so (gdoc_ldoc so h) (gdoc_ldoc so h')

theorem accepts_iff (cs : List Char) :
    (∃ r, parseChars so cs false = .ok r) ↔ ∃ v, GDoc cs v := by
  constructor
  · rintro ⟨⟨v, cm⟩, h⟩; exact ⟨v, parse_sound h⟩
  · rintro ⟨v, h⟩; obtain ⟨cm, hc⟩ := parse_complete so h; exact ⟨_, hc⟩

theorem print_parse (po : PrintOptions) (ind : Nat) (o : ParseOptions) {v : JValue} (hn : NumsOk v) :
    ∃ t cm, printWith po ind v = some t ∧ parseChars o t false = .ok (v, cm) := by
  have hg : GDoc (specPrint po ind v) v := interleave_gdoc hn (spec_interleave po v ind)
  obtain ⟨cm, hc⟩ := parse_complete o hg
  exact ⟨_, cm, printer_eq_spec po v ind, hc⟩

end JsonVerif
