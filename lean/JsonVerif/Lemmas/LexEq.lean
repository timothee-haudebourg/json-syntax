import JsonVerif.Model.Parse
import JsonVerif.Lemmas.LexDef
import JsonVerif.Lemmas.NumRun
/-!
# The lexical layer as programs

Each function of the lexical layer written once as a program over the primitives of
Lemmas/LexDef.lean (`X_eq`). The two scanners enter as `raw (numScan ctx)` and `raw (strScan o)`:
the loops of Model/ParseLex.lean and Model/Parse.lean with what `lexNumber` / `lexString` do right
after them. What is not a program (`skipWs`, `endFragment`, the scanners) is read backwards here.
-/
namespace JsonVerif
open Lex

/-- the number loop with the two checks `lexNumber` makes at its end: `peek_char()?` at the end of a
    failing stream, and the accepting state -/
def numScan (ctx : Ctx) (bad : Bool) (l : List Char) (pos : Nat) : Except PErr (List Char × List Char × Nat) :=
  match numLoop ctx .init [] l pos with
  | .error e => .error e
  | .ok (st, buf, r, p) =>
    match r.isEmpty && bad with
    | true => .error (.stream p)
    | false =>
      match st.accepting with
      | true => .ok (buf, r, p)
      | false => .error (.unexpected p none)

/-- the string loop from just after the opening quote; the offset of the closing quote is dropped -/
def strScan (o : ParseOptions) (bad : Bool) (l : List Char) (pos : Nat) : Except PErr (List Char × List Char × Nat) :=
  match strLoop o bad [] none l pos with
  | .error e => .error e
  | .ok (str, r, p, _) => .ok (str, r, p)

theorem skipWs_ok {s s' : PS} : skipWs s = .ok s' ↔
    s' = { s with rest := (skipWsL s.rest s.pos).1, pos := (skipWsL s.rest s.pos).2 } ∧
      ((skipWsL s.rest s.pos).1 = [] → s.bad = false) := by
  unfold skipWs
  simp only
  split
  · rename_i hb
    simp only [Bool.and_eq_true, List.isEmpty_iff] at hb
    exact ⟨fun h => (nomatch h), fun h => (nomatch (h.2 hb.1).symm.trans hb.2)⟩
  · rename_i hb
    simp only [Bool.and_eq_true, List.isEmpty_iff, not_and, Bool.not_eq_true] at hb
    exact ⟨fun h => by cases h; exact ⟨rfl, hb⟩, fun h => by rw [h.1]⟩

theorem skipWs_error {s : PS} {e : PErr} : skipWs s = .error e ↔
    (skipWsL s.rest s.pos).1 = [] ∧ s.bad = true ∧ e = .stream (skipWsL s.rest s.pos).2 := by
  unfold skipWs
  simp only
  split
  · rename_i hb
    simp only [Bool.and_eq_true, List.isEmpty_iff] at hb
    exact ⟨fun h => by cases h; exact ⟨hb.1, hb.2, rfl⟩, fun h => by rw [h.2.2]⟩
  · rename_i hb
    simp only [Bool.and_eq_true, List.isEmpty_iff, not_and, Bool.not_eq_true] at hb
    exact ⟨fun h => (nomatch h), fun h => (nomatch (hb h.1).symm.trans h.2.1)⟩

theorem endFragment_ok {s : PS} {i : Nat} {s' : PS} : s.endFragment i = .ok s' ↔
    ∃ e, s.cm[i]? = some e ∧ s' = { s with cm := s.cm.setIfInBounds i ⟨e.start, s.pos, s.cm.size - i⟩ } := by
  unfold PS.endFragment
  cases s.cm[i]? with
  | none => exact ⟨fun h => (nomatch h), fun ⟨_, h, _⟩ => (nomatch h)⟩
  | some e => exact ⟨fun h => by cases h; exact ⟨e, rfl, rfl⟩, fun ⟨_, h, hs⟩ => by cases h; rw [hs]⟩

theorem endFragment_error {s : PS} {i : Nat} {e : PErr} : s.endFragment i = .error e ↔
    s.cm.size ≤ i ∧ e = .panic := by
  unfold PS.endFragment
  cases h : s.cm[i]? with
  | none => exact ⟨fun hh => by cases hh; exact ⟨Array.getElem?_eq_none_iff.1 h, rfl⟩, fun hh => by rw [hh.2]⟩
  | some e' =>
    refine ⟨fun hh => (nomatch hh), fun hh => ?_⟩
    rw [Array.getElem?_eq_none_iff.2 hh.1] at h
    cases h

theorem endFragment_total {s : PS} {i : Nat} (h : i < s.cm.size) : ∃ s', s.endFragment i = .ok s' :=
  ⟨_, endFragment_ok.2 ⟨s.cm[i], Array.getElem?_eq_getElem h, rfl⟩⟩

theorem endFragment_rest {s : PS} {i : Nat} {s' : PS} (h : s.endFragment i = .ok s') :
    s'.rest = s.rest ∧ s'.pos = s.pos ∧ s'.bad = s.bad := by
  obtain ⟨_, _, rfl⟩ := endFragment_ok.1 h
  exact ⟨rfl, rfl, rfl⟩

theorem reserve_lt (s : PS) : s.cm.size < s.reserve.cm.size := by
  simp [PS.reserve]

theorem numScan_ok {ctx : Ctx} {bad : Bool} {l : List Char} {pos : Nat} {n r : List Char} {p : Nat} :
    numScan ctx bad l pos = .ok (n, r, p) ↔ ∃ st, numLoop ctx .init [] l pos = .ok (st, n, r, p) ∧
      (r.isEmpty && bad) = false ∧ st.accepting = true := by
  unfold numScan
  cases numLoop ctx .init [] l pos with
  | error e => exact ⟨fun h => (nomatch h), fun ⟨_, h, _⟩ => (nomatch h)⟩
  | ok v =>
    obtain ⟨st, _, r', _⟩ := v
    simp only
    cases hb : r'.isEmpty && bad with
    | true => exact ⟨fun h => (nomatch h), fun ⟨_, h, h2, _⟩ => by cases h; rw [hb] at h2; cases h2⟩
    | false =>
      cases ha : st.accepting with
      | true => exact ⟨fun h => by cases h; exact ⟨st, rfl, hb, ha⟩, fun ⟨_, h, _⟩ => by cases h; rfl⟩
      | false => exact ⟨fun h => (nomatch h), fun ⟨_, h, _, h3⟩ => by cases h; rw [ha] at h3; cases h3⟩

theorem numScan_error_inv {ctx : Ctx} {bad : Bool} {l : List Char} {pos : Nat} {e : PErr}
    (h : numScan ctx bad l pos = .error e) : numLoop ctx .init [] l pos = .error e ∨
      ∃ st buf r p, numLoop ctx .init [] l pos = .ok (st, buf, r, p) ∧
        ((r = [] ∧ bad = true ∧ e = .stream p) ∨ (st.accepting = false ∧ e = .unexpected p none)) := by
  unfold numScan at h
  split at h
  · rename_i hv; cases h; exact .inl hv
  · rename_i st buf r p hv
    refine .inr ⟨st, buf, r, p, hv, ?_⟩
    split at h
    · rename_i hb
      cases h
      simp only [Bool.and_eq_true, List.isEmpty_iff] at hb
      exact .inl ⟨hb.1, hb.2, rfl⟩
    · split at h
      · cases h
      · rename_i ha; cases h; exact .inr ⟨ha, rfl⟩

/-- where a failing `numScan` stopped and what it reports: a bad character inside the input (then
    the loop itself failed), or the end of the input: of a failing stream, or in a state that is not
    accepting (the loop stops before a character only in an accepting state) -/
theorem numScan_error_shape {ctx : Ctx} {bad : Bool} {l : List Char} {pos : Nat} {e : PErr}
    (h : numScan ctx bad l pos = .error e) :
    (numLoop ctx .init [] l pos = .error e ∧
      ∃ w c r, l = w ++ c :: r ∧ e = .unexpected (pos + utf8Len w) (some c)) ∨
    (bad = true ∧ e = .stream (pos + utf8Len l)) ∨
    e = .unexpected (pos + utf8Len l) none := by
  rcases numScan_error_inv h with h | ⟨_, _, r, _, hv, h⟩
  · obtain ⟨w, c, r, _, hl, _, _, he⟩ := numLoop_err_inv h
    exact .inl ⟨h, w, c, r, hl, he⟩
  · obtain ⟨_, rfl, _, hstop, _, rfl⟩ := numLoop_ok_inv hv
    rcases h with ⟨rfl, hb, rfl⟩ | ⟨ha, rfl⟩
    · exact .inr (.inl ⟨hb, by rw [List.append_nil]⟩)
    · cases r with
      | nil => exact .inr (.inr (by rw [List.append_nil]))
      | cons c r' => rw [numTrans_stop_accepting (hstop c rfl)] at ha; cases ha

theorem strScan_ok {o : ParseOptions} {bad : Bool} {l : List Char} {pos : Nat} {str r : List Char} {p : Nat} :
    strScan o bad l pos = .ok (str, r, p) ↔ ∃ q, strLoop o bad [] none l pos = .ok (str, r, p, q) := by
  unfold strScan
  cases strLoop o bad [] none l pos with
  | error e => exact ⟨fun h => (nomatch h), fun ⟨_, h⟩ => (nomatch h)⟩
  | ok v => exact ⟨fun h => by cases h; exact ⟨_, rfl⟩, fun ⟨_, h⟩ => by cases h; rfl⟩

theorem strScan_error {o : ParseOptions} {bad : Bool} {l : List Char} {pos : Nat} {e : PErr} :
    strScan o bad l pos = .error e ↔ strLoop o bad [] none l pos = .error e := by
  unfold strScan
  cases strLoop o bad [] none l pos with
  | error e' => exact ⟨fun h => by cases h; rfl, fun h => by cases h; rfl⟩
  | ok v => exact ⟨fun h => (nomatch h), fun h => (nomatch h)⟩

theorem lexNumber_eq (ctx : Ctx) : lexNumber ctx = bind reserve fun i =>
    bind (raw (numScan ctx)) fun n => close i n := by
  funext s
  simp only [lexNumber, close, Lex.bind, reserve, raw, numScan, lift, Lex.pure, PS.beginFragment_fst,
    PS.beginFragment_snd]
  cases numLoop ctx .init [] s.reserve.rest s.reserve.pos with
  | error e => rfl
  | ok v =>
    obtain ⟨st, _, r, _⟩ := v
    simp only
    cases r.isEmpty && s.reserve.bad with
    | true => rfl
    | false =>
      cases st.accepting with
      | false => rfl
      | true => simp only; cases PS.endFragment _ _ <;> rfl

theorem lexString_eq (o : ParseOptions) : lexString o = bind reserve fun i => peekC fun d =>
    if d = '"' then bind next fun _ => bind (raw (strScan o)) fun str => close i str
    else unexpectedHere := by
  funext s
  simp only [lexString, Lex.bind, reserve, peekC, PS.beginFragment_fst, PS.beginFragment_snd]
  cases hr : s.reserve.rest with
  | nil => rfl
  | cons d r =>
    simp only
    split
    · simp only [close, Lex.bind, next, hr, raw, strScan, lift, Lex.pure, PS.adv]
      cases strLoop o s.reserve.bad [] none r (s.reserve.pos + d.utf8Size) with
      | error e => rfl
      | ok v => simp only; cases PS.endFragment _ _ <;> rfl
    · simp [unexpectedHere, hr]

theorem expectChar_eq (c : Char) :
    lift (expectChar c) = peekC fun d => if d = c then next else unexpectedHere := by
  funext s
  simp only [lift, expectChar, peekC]
  cases hr : s.rest with
  | nil => rfl
  | cons d r => by_cases hd : d = c <;> simp [hd, next, unexpectedHere, hr]

theorem expectChars_cons (c : Char) (cs : List Char) :
    lift (expectChars (c :: cs)) = bind (lift (expectChar c)) fun _ => lift (expectChars cs) := by
  funext s
  simp only [lift, expectChars, Lex.bind]
  cases expectChar c s <;> rfl

theorem lexNull_eq : lift lexNull = bind reserve fun i => literal ['n', 'u', 'l', 'l'] i () := by
  funext s
  simp only [lift, lexNull, literal, close, Lex.bind, Lex.pure, reserve, PS.beginFragment_fst,
    PS.beginFragment_snd]
  cases expectChars _ _ with
  | error e => rfl
  | ok s1 => simp only; cases s1.endFragment _ <;> rfl

theorem lexBool_eq : lexBool = bind reserve fun i => peekC fun d =>
    if d = 't' then literal ['t', 'r', 'u', 'e'] i true
    else if d = 'f' then literal ['f', 'a', 'l', 's', 'e'] i false
    else unexpectedHere := by
  funext s
  simp only [lexBool, Lex.bind, reserve, peekC, PS.beginFragment_fst, PS.beginFragment_snd]
  cases hr : s.reserve.rest with
  | nil => rfl
  | cons d r =>
    simp only
    split
    · simp only [literal, close, Lex.bind, lift, Lex.pure]
      cases expectChars _ _ with
      | error e => rfl
      | ok s1 => simp only; cases s1.endFragment _ <;> rfl
    · split
      · simp only [literal, close, Lex.bind, lift, Lex.pure]
        cases expectChars _ _ with
        | error e => rfl
        | ok s1 => simp only; cases s1.endFragment _ <;> rfl
      · simp [unexpectedHere, hr]

theorem lexKeyColon_eq (o : ParseOptions) : ofTriple (lexKeyColon o) = bind reserve fun i =>
    bind (lexString o) fun key => bind (lift skipWs) fun _ => bind (lift (expectChar ':')) fun _ =>
      pure (key, i) := by
  funext s
  simp only [ofTriple, lexKeyColon, Lex.bind, reserve, lift, PS.beginFragment_fst, PS.beginFragment_snd]
  cases lexString o s.reserve with
  | error e => rfl
  | ok r =>
    obtain ⟨_, s1⟩ := r
    simp only
    cases skipWs s1 with
    | error e => rfl
    | ok s2 => simp only; cases expectChar ':' s2 <;> rfl

/-- `opener` as the cascade in which `startArray` and `startObject` are written -/
theorem opener_apply (c d : Char) (v : α) (k : Nat → Lex α) (s : PS) : opener c d v k s =
    match expectChar c s.reserve with
    | .error e => .error e
    | .ok s1 =>
      match skipWs s1 with
      | .error e => .error e
      | .ok s2 =>
        match s2.rest with
        | d' :: r =>
          if d' = d then
            match (s2.adv d' r).endFragment s.cm.size with
            | .error e => .error e
            | .ok s3 => .ok (v, s3)
          else k s.cm.size s2
        | [] => k s.cm.size s2 := by
  simp only [opener, Lex.bind, reserve, lift]
  cases expectChar c s.reserve with
  | error e => rfl
  | ok s1 =>
    simp only
    cases skipWs s1 with
    | error e => rfl
    | ok s2 =>
      simp only [peek]
      cases hr : s2.rest with
      | nil => rfl
      | cons d' r =>
        by_cases hd : d' = d
        · simp only [hd, List.head?_cons, ↓reduceIte, closer, close, Lex.bind, next, hr, lift, Lex.pure]
          cases (s2.adv d r).endFragment _ <;> rfl
        · simp only [hd, List.head?_cons, Option.some.injEq, ↓reduceIte]

theorem startArray_eq :
    startArray = opener '[' ']' (.value (.array [])) fun i => pure (.beginArray i) := by
  funext s
  rw [opener_apply]
  rfl

theorem startObjectKey_eq (o : ParseOptions) (i : Nat) : startObjectKey o i =
    bind (ofTriple (lexKeyColon o)) fun ke => pure (.beginObject i ke.1 ke.2) := by
  funext s
  simp only [startObjectKey, Lex.bind, ofTriple]
  cases lexKeyColon o s <;> rfl

theorem startObject_eq (o : ParseOptions) :
    startObject o = opener '{' '}' (.value (.object [])) (startObjectKey o) := by
  funext s
  rw [opener_apply]
  rfl

theorem parseFragment_eq (o : ParseOptions) (ctx : Ctx) : parseFragment o ctx =
    bind (lift skipWs) fun _ => peekC fun c =>
      if c = 'n' then bind (lift lexNull) fun _ => pure (.value .null)
      else if c = 't' || c = 'f' then bind lexBool fun b => pure (.value (.bool b))
      else if isDigit c || c = '-' then bind (lexNumber ctx) fun n => pure (.value (.number n))
      else if c = '"' then bind (lexString o) fun str => pure (.value (.string str))
      else if c = '[' then startArray
      else if c = '{' then startObject o
      else unexpectedHere := by
  funext s
  simp only [parseFragment, Lex.bind, lift, peekC]
  cases skipWs s with
  | error e => rfl
  | ok s1 =>
    simp only
    cases hr : s1.rest with
    | nil => rfl
    | cons c r =>
      simp only
      -- `by_cases` with `if_pos` / `if_neg` on both sides: `split` on this chain is some hundred times dearer
      by_cases h1 : c = 'n'
      · simp only [if_pos h1, Lex.bind, lift, Lex.pure]; cases lexNull s1 <;> rfl
      rw [if_neg h1, if_neg h1]
      by_cases h2 : (c = 't' || c = 'f') = true
      · simp only [if_pos h2, Lex.bind, Lex.pure]; cases lexBool s1 <;> rfl
      rw [if_neg h2, if_neg h2]
      by_cases h3 : (isDigit c || c = '-') = true
      · simp only [if_pos h3, Lex.bind, Lex.pure]; cases lexNumber ctx s1 <;> rfl
      rw [if_neg h3, if_neg h3]
      by_cases h4 : c = '"'
      · simp only [if_pos h4, Lex.bind, Lex.pure]; cases lexString o s1 <;> rfl
      rw [if_neg h4, if_neg h4]
      by_cases h5 : c = '['
      · rw [if_pos h5, if_pos h5]
      rw [if_neg h5, if_neg h5]
      by_cases h6 : c = '{'
      · rw [if_pos h6, if_pos h6]
      rw [if_neg h6, if_neg h6, unexpectedHere, hr]; rfl

theorem contArray_eq (i : Nat) : contArray i = bind (lift skipWs) fun _ => peekC fun d =>
    if d = ',' then bind next fun _ => pure .item
    else if d = ']' then closer i .end_
    else unexpectedHere := by
  funext s
  simp only [contArray, Lex.bind, lift, peekC]
  cases skipWs s with
  | error e => rfl
  | ok s1 =>
    simp only
    cases hr : s1.rest with
    | nil => rfl
    | cons d r =>
      simp only
      split
      · simp [Lex.bind, next, Lex.pure, hr]
      · split
        · simp only [closer, close, Lex.bind, next, Lex.pure, lift, hr]
          cases (s1.adv d r).endFragment i <;> rfl
        · simp [unexpectedHere, hr]

theorem contObject_eq (o : ParseOptions) (i : Nat) : contObject o i =
    bind (lift skipWs) fun _ => peekC fun d =>
      if d = ',' then bind next fun _ => bind (lift skipWs) fun _ =>
        bind (ofTriple (lexKeyColon o)) fun ke => pure (.entry ke.1 ke.2)
      else if d = '}' then closer i .end_
      else unexpectedHere := by
  funext s
  simp only [contObject, Lex.bind, lift, peekC]
  cases skipWs s with
  | error e => rfl
  | ok s1 =>
    simp only
    cases hr : s1.rest with
    | nil => rfl
    | cons d r =>
      simp only
      split
      · simp only [Lex.bind, next, hr, lift, Lex.pure, ofTriple]
        cases skipWs (s1.adv d r) with
        | error e => rfl
        | ok s2 => simp only; cases lexKeyColon o s2 <;> rfl
      · split
        · simp only [closer, close, Lex.bind, next, hr, lift, Lex.pure]; cases (s1.adv d r).endFragment i <;> rfl
        · simp [unexpectedHere, hr]

/-- a raw scanner, then `end_fragment`: how both token lexers end -/
theorem raw_close_ok {f : Bool → List Char → Nat → Except PErr (α × List Char × Nat)} {i : Nat} {s : PS}
    {a : α} {s' : PS} :
    (bind (raw f) fun a => close i a) s = .ok (a, s') ↔
      ∃ r p, f s.bad s.rest s.pos = .ok (a, r, p) ∧
        ({ s with rest := r, pos := p } : PS).endFragment i = .ok s' := by
  constructor
  · intro h
    obtain ⟨_, _, h1, h2⟩ := Lex.bind_ok.1 h
    obtain ⟨r, p, hv, rfl⟩ := raw_ok.1 h1
    obtain ⟨rfl, h3⟩ := close_ok.1 h2
    exact ⟨r, p, hv, h3⟩
  · rintro ⟨r, p, hv, h2⟩
    exact Lex.bind_ok.2 ⟨a, _, raw_ok.2 ⟨r, p, hv, rfl⟩, close_ok.2 ⟨rfl, h2⟩⟩

/-- closing an index of the code map does not fail: the errors are those of the scanner -/
theorem raw_close_error {f : Bool → List Char → Nat → Except PErr (α × List Char × Nat)} {i : Nat} {s : PS}
    {e : PErr} (hi : i < s.cm.size) :
    (bind (raw f) fun a => close i a) s = .error e ↔ f s.bad s.rest s.pos = .error e := by
  refine ⟨fun h => ?_, fun h => bind_error.2 (.inl (raw_error.2 h))⟩
  rcases bind_error.1 h with h1 | ⟨_, _, h1, h2⟩
  · exact raw_error.1 h1
  · obtain ⟨_, _, _, rfl⟩ := raw_ok.1 h1
    exact absurd (endFragment_error.1 (close_error.1 h2)).1 (Nat.not_le_of_lt hi)

theorem lexNumber_ok {ctx : Ctx} {s : PS} {n : List Char} {s' : PS} :
    lexNumber ctx s = .ok (n, s') ↔ ∃ r p, numScan ctx s.bad s.rest s.pos = .ok (n, r, p) ∧
      ({ s.reserve with rest := r, pos := p } : PS).endFragment s.cm.size = .ok s' := by
  rw [lexNumber_eq, bind_reserve]
  exact raw_close_ok

theorem lexNumber_error {ctx : Ctx} {s : PS} {e : PErr} :
    lexNumber ctx s = .error e ↔ numScan ctx s.bad s.rest s.pos = .error e := by
  rw [lexNumber_eq, bind_reserve]
  exact raw_close_error (s := s.reserve) (reserve_lt s)

theorem lexString_ok {o : ParseOptions} {s : PS} {str : List Char} {s' : PS} :
    lexString o s = .ok (str, s') ↔ ∃ r r' p, s.rest = '"' :: r ∧
      strScan o s.bad r (s.pos + ('"' : Char).utf8Size) = .ok (str, r', p) ∧
      ({ s.reserve with rest := r', pos := p } : PS).endFragment s.cm.size = .ok s' := by
  rw [lexString_eq, bind_reserve]
  constructor
  · intro h
    obtain ⟨_, r, hr, h0⟩ := peekC_ok.1 h
    rcases ite_eq.1 h0 with ⟨rfl, h1⟩ | ⟨_, h1⟩
    · rw [bind_next hr] at h1
      obtain ⟨r', p, hv, h2⟩ := raw_close_ok.1 h1
      exact ⟨r, r', p, hr, hv, h2⟩
    · cases h1
  · rintro ⟨r, r', p, hr, hv, h2⟩
    -- `reserve` leaves `rest`, `pos` and `bad` alone, by unfolding
    have hr' : s.reserve.rest = '"' :: r := hr
    rw [peekC_cons hr', if_pos rfl, bind_next hr']
    exact raw_close_ok.2 ⟨r', p, hv, h2⟩

theorem lexString_error {o : ParseOptions} {s : PS} {e : PErr} : lexString o s = .error e ↔
    (s.rest = [] ∧ e = s.eofErr) ∨
    (∃ d r, s.rest = d :: r ∧ d ≠ '"' ∧ e = .unexpected s.pos (some d)) ∨
    (∃ r, s.rest = '"' :: r ∧ strScan o s.bad r (s.pos + ('"' : Char).utf8Size) = .error e) := by
  rw [lexString_eq, bind_reserve, peekC_error]
  refine or_congr .rfl ⟨fun ⟨d, r, hr, h0⟩ => ?_, fun h => ?_⟩
  · rcases ite_eq.1 h0 with ⟨rfl, h1⟩ | ⟨hd, h1⟩
    · rw [bind_next hr] at h1
      exact .inr ⟨r, hr, (raw_close_error (s := s.reserve.adv _ r) (reserve_lt s)).1 h1⟩
    · cases h1
      exact .inl ⟨d, r, hr, hd, by rw [show s.reserve.rest = d :: r from hr]; rfl⟩
  · rcases h with ⟨d, r, hr, hd, rfl⟩ | ⟨r, hr, hv⟩
    · exact ⟨d, r, hr, by rw [if_neg hd, unexpectedHere, show s.reserve.rest = d :: r from hr]; rfl⟩
    · have hr' : s.reserve.rest = '"' :: r := hr
      exact ⟨'"', r, hr, by rw [if_pos rfl, bind_next hr']
                            exact (raw_close_error (s := s.reserve.adv _ r) (reserve_lt s)).2 hv⟩

end JsonVerif
