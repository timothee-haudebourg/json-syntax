import JsonVerif.Spec.Lenient
import JsonVerif.Lemmas.CodeUnit
import JsonVerif.Lemmas.Leaf
/-!
# The string scanner under any option record reads exactly `LString o` (C12, exactness)

One step of the scanner read against the productions of `LBody o`, with nothing pending and with a
high surrogate pending; then the loop, soundness by induction on the fuel, completeness by induction
on the derivation. An `O` in a name (`strStepO_*`, `strLoopO_*`) says: for every option record `o`. `bad` is
the flag "the stream ends in a decoding error"; it only decides which error a step reports at the end
of the input, so every statement holds for both values. The fuel of `strLoopAux` is a list of which
only the length matters (`strLoop` passes the unread input).
-/
namespace JsonVerif

theorem StartsLow.mono {l x : List Char} (h : StartsLow l) : StartsLow (l ++ x) := by
  obtain ⟨a, b, c, d, lo, r, rfl, h1, h2⟩ := h
  exact ⟨a, b, c, d, lo, r ++ x, by simp, h1, h2⟩

theorem strStepO_none_done {o : ParseOptions} {bad : Bool} {acc l : List Char} {pos : Nat}
    {a r : List Char} {p q : Nat}
    (h : strStep o bad acc none l pos = .done a r p q) : l = '"' :: r ∧ a = acc := by
  obtain ⟨rfl, _, _, cs, hi, he, rfl⟩ := strStep_done_inv h
  cases he; exact ⟨rfl, by simp⟩

/-- one element, a high-surrogate escape that stays pending (`pe`: the offset of its `u`, kept for
    error reports only), or under `inval` a lone low-surrogate escape -/
theorem strStepO_none_more {o : ParseOptions} {bad : Bool} {acc l : List Char} {pos : Nat}
    {a : List Char} {hi : Option (Nat × Nat)} {r : List Char} {p : Nat}
    (h : strStep o bad acc none l pos = .more a hi r p) :
    (∃ t ch, l = t ++ r ∧ GElem t ch ∧ a = acc ++ [ch] ∧ hi = none) ∨
    (∃ x y z w cp pe, l = '\\' :: 'u' :: x :: y :: z :: w :: r ∧ hexCp x y z w = some cp ∧
        isHigh cp = true ∧ a = acc ∧ hi = some (pe, cp)) ∨
    (o.inval = true ∧ ∃ x y z w lo, l = '\\' :: 'u' :: x :: y :: z :: w :: r ∧ hexCp x y z w = some lo ∧
        isLow lo = true ∧ a = acc ++ [fffd] ∧ hi = none) := by
  obtain ⟨w, e, cs, hr, rfl, rfl, he, rfl⟩ := strStep_more_inv h
  cases hr with
  | quote => cases he
  | raw c h1 h2 h3 => cases he; exact .inl ⟨_, c, rfl, .raw c h1 h2 h3, rfl, rfl⟩
  | esc e ch h1 h2 => cases he; exact .inl ⟨_, ch, rfl, .esc e ch h1 h2, rfl, rfl⟩
  | u x y z w cp hcp =>
    simp only [onElem, onElem0] at he
    by_cases hh : isHigh cp = true
    · rw [if_pos hh] at he; cases he
      exact .inr (.inl ⟨x, y, z, w, cp, _, rfl, hcp, hh, List.append_nil _, rfl⟩)
    rw [if_neg hh] at he
    have hh : isHigh cp = false := by simpa using hh
    cases hch : ofCp cp with
    | some ch =>
      rw [hch] at he; cases he
      exact .inl ⟨_, ch, rfl, .u x y z w cp ch hcp hh hch, rfl, rfl⟩
    | none =>
      rw [hch] at he
      by_cases hinv : o.inval = true
      · rw [if_pos hinv] at he; cases he
        exact .inr (.inr ⟨hinv, x, y, z, w, cp, rfl, hcp, ofCp_none_low hch (hexCp_lt hcp) hh, rfl, rfl⟩)
      · rw [if_neg hinv] at he; cases he

/-- an element read where the text does not start with a low-surrogate escape is no low unit -/
theorem Reads.not_low {w r : List Char} {e : Elem} (hr : Reads w e) (hn : ¬ StartsLow (w ++ r)) :
    ∀ cp, e = .unit cp → isLow cp = false := by
  intro cp he
  subst he
  cases hr with
  | u a b c d _ hcp =>
    cases hl : isLow cp with
    | false => rfl
    | true => exact absurd ⟨a, b, c, d, cp, r, rfl, hcp, hl⟩ hn

/-- with `accept_truncated_surrogate_pair` the pending high becomes U+FFFD and the
    scanner carries on exactly as if nothing had been pending -/
theorem strStepO_trunc {o : ParseOptions} (ht : o.trunc = true) (bad : Bool) (acc l : List Char)
    (pos ph hv : Nat) (hn : ¬ StartsLow l) :
    strStep o bad acc (some (ph, hv)) l pos = strStep o bad (acc ++ [fffd]) none l pos := by
  rcases scan_total l with ⟨w, r, e, rfl, hr⟩ | ⟨w, t, rfl, hs⟩
  · rw [strStep_reads hr, strStep_reads hr, ← Act.run_pre]
    -- the table: with a high pending, every element but a low unit (excluded by `hn`) gets the entry
    -- it has with nothing pending, behind U+FFFD
    congr 1
    cases e with
    | unit cp => simp [onElem, hr.not_low hn cp rfl, ht]
    | _ => simp [onElem, ht]
  · rw [strStep_stuck hs, strStep_stuck hs]

/-- without it, nothing but a low-surrogate escape is accepted after a high one -/
theorem strStepO_strictHigh {o : ParseOptions} (ht : o.trunc = false) {bad : Bool} {acc l : List Char}
    {pos ph hv : Nat} (hn : ¬ StartsLow l) : ∃ x, strStep o bad acc (some (ph, hv)) l pos = .err x := by
  rcases scan_total l with ⟨w, r, e, rfl, hr⟩ | ⟨w, t, rfl, hs⟩
  · rw [strStep_reads hr]
    cases e with
    | unit cp => simp [onElem, hr.not_low hn cp rfl, ht, Act.run]
    | _ => simp [onElem, ht, Act.run]
  · exact ⟨_, strStep_stuck hs ..⟩

theorem strStepO_quote (o : ParseOptions) (bad : Bool) (acc r : List Char) (pos : Nat) :
    strStep o bad acc none ('"' :: r) pos = .done acc r (pos + '"'.utf8Size) pos := by
  simpa [onElem, onElem0, Act.run] using strStep_reads .quote o bad acc none r pos

/-- a `char` production is one element accepted as the character it denotes, or two code units of
    which the first is left pending and the second completes the pair -/
theorem GElem.reads {t : List Char} {ch : Char} (h : GElem t ch) (o : ParseOptions) :
    (∃ e, Reads t e ∧ ∀ q p, onElem o none q p e = .out [ch] none false) ∨
    (∃ w1 w2 hi lo, t = w1 ++ w2 ∧ Reads w1 (.unit hi) ∧ Reads w2 (.unit lo) ∧
      (∀ q p, onElem o none q p (.unit hi) = .out [] (some (q + 1, hi)) false) ∧
      ∀ ph q p, onElem o (some (ph, hi)) q p (.unit lo) = .out [ch] none false) := by
  cases h with
  | raw _ h1 h2 h3 => exact .inl ⟨_, .raw _ h1 h2 h3, fun _ _ => rfl⟩
  | esc e _ h1 h2 => exact .inl ⟨_, .esc e _ h1 h2, fun _ _ => rfl⟩
  | u a b c d cp ch h1 h2 h3 => exact .inl ⟨_, .u a b c d cp h1, fun _ _ => by simp [onElem, onElem0, h2, h3]⟩
  | pair a b c d a' b' c' d' hi lo ch h1 h2 h3 h4 h5 =>
    exact .inr ⟨['\\', 'u', a, b, c, d], _, hi, lo, rfl, .u a b c d hi h1, .u a' b' c' d' lo h3,
      fun _ _ => by simp [onElem, onElem0, h2], fun _ _ _ => by simp [onElem, h4, h5]⟩

theorem strLoopAux_trunc {o : ParseOptions} (ht : o.trunc = true) (bad : Bool) (fuel acc l : List Char)
    (pos ph hv : Nat) (hn : ¬ StartsLow l) :
    strLoopAux o bad fuel acc (some (ph, hv)) l pos = strLoopAux o bad fuel (acc ++ [fffd]) none l pos := by
  unfold strLoopAux
  rw [strStepO_trunc ht bad acc l pos ph hv hn]

/-- `strLoopO_sound` at one fuel for a run that starts with No high surrogate pending … -/
def SoundN (o : ParseOptions) (bad : Bool) (fuel : List Char) : Prop :=
  ∀ acc l pos a r p q, strLoopAux o bad fuel acc none l pos = .ok (a, r, p, q) →
    ∃ t cs, l = t ++ '"' :: r ∧ LBody o t cs ∧ a = acc ++ cs

/-- … and for a run that starts with Some high surrogate `hv` pending -/
def SoundS (o : ParseOptions) (bad : Bool) (fuel : List Char) : Prop :=
  ∀ acc ph hv l pos a r p q, isHigh hv = true →
    strLoopAux o bad fuel acc (some (ph, hv)) l pos = .ok (a, r, p, q) →
    (∃ x y z w lo ch t cs, l = '\\' :: 'u' :: x :: y :: z :: w :: (t ++ '"' :: r) ∧
      hexCp x y z w = some lo ∧ isLow lo = true ∧ ofCp (pairCp hv lo) = some ch ∧ LBody o t cs ∧
      a = acc ++ ch :: cs) ∨
    (o.trunc = true ∧ ¬ StartsLow l ∧ ∃ t cs, l = t ++ '"' :: r ∧ LBody o t cs ∧ a = acc ++ fffd :: cs)

/-- with a high surrogate pending: a low-surrogate escape completes the pair and the run goes on
    with one fuel less (`hPrev`); anything else is read, under `trunc`, as if nothing were pending, and
    that rewriting (`strLoopAux_trunc`) uses up no fuel: hence `SoundN` at the SAME fuel (`hN`).
    `hPrev` speaks of any `f :: fuel'` the fuel may be, so that empty and non-empty fuel both go through
    `.of` in `strLoopO_sound`. -/
theorem SoundS.of {o : ParseOptions} {bad : Bool} {fuel : List Char} (hN : SoundN o bad fuel)
    (hPrev : ∀ f fuel', fuel = f :: fuel' → SoundN o bad fuel') : SoundS o bad fuel := by
  intro acc ph hv l pos a r p q hh h
  by_cases hsl : StartsLow l
  · left
    obtain ⟨x, y, z, w, lo, r0, rfl, hlo, hl⟩ := hsl
    obtain ⟨ch, hch⟩ := ofCp_pair_some hh hl
    have hs := strStep_out (o := o) (high := some (ph, hv)) (pos := pos) (.u x y z w lo hlo)
      (cs := [ch]) (hi := none) (by simp [onElem, hl, hch]) bad acc r0
    simp only [List.cons_append, List.nil_append] at hs
    cases fuel with
    | nil => rw [strLoopAux, hs] at h; cases h
    | cons f fuel' =>
      rw [strLoopAux_more hs] at h
      obtain ⟨t, cs, rfl, hb, rfl⟩ := hPrev f fuel' rfl _ _ _ _ _ _ _ h
      exact ⟨x, y, z, w, lo, ch, t, cs, rfl, hlo, hl, hch, hb, by simp⟩
  · cases ht : o.trunc with
    | true =>
      right
      rw [strLoopAux_trunc ht bad fuel acc l pos ph hv hsl] at h
      obtain ⟨t, cs, rfl, hb, rfl⟩ := hN _ _ _ _ _ _ _ h
      exact ⟨rfl, hsl, t, cs, rfl, hb, by simp⟩
    | false =>
      obtain ⟨x, hx⟩ := strStepO_strictHigh ht (bad := bad) (acc := acc) (pos := pos) (ph := ph) (hv := hv) hsl
      rw [strLoopAux, hx] at h
      cases h

/-- with nothing pending: the closing quote, or one element and then a run with one fuel less -/
theorem SoundN.of {o : ParseOptions} {bad : Bool} {fuel : List Char}
    (hPrev : ∀ f fuel', fuel = f :: fuel' → SoundN o bad fuel' ∧ SoundS o bad fuel') : SoundN o bad fuel := by
  intro acc l pos a r p q h
  rw [strLoopAux] at h
  split at h
  · rename_i hs
    cases h
    obtain ⟨rfl, rfl⟩ := strStepO_none_done hs
    exact ⟨[], [], rfl, .nil, by simp⟩
  · cases h
  · rename_i a1 hi1 r1 p1 hs
    cases fuel with
    | nil => cases h
    | cons f fuel' =>
      obtain ⟨ihN, ihS⟩ := hPrev f fuel' rfl
      rcases strStepO_none_more hs with ⟨te, ch, rfl, hel, rfl, rfl⟩ |
        ⟨x, y, z, w, cp, pe, rfl, hcp, hh, rfl, rfl⟩ | ⟨hinv, x, y, z, w, lo, rfl, hlo, hl, rfl, rfl⟩
      · obtain ⟨t, cs, rfl, hb, rfl⟩ := ihN _ _ _ _ _ _ _ h
        exact ⟨te ++ t, ch :: cs, by simp, .elem te ch t cs hel hb, by simp⟩
      · rcases ihS _ _ _ _ _ _ _ _ _ hh h with
          ⟨x', y', z', w', lo, ch, t, cs, rfl, hlo, hl, hch, hb, rfl⟩ | ⟨ht, hns, t, cs, rfl, hb, rfl⟩
        · exact ⟨['\\', 'u', x, y, z, w, '\\', 'u', x', y', z', w'] ++ t, ch :: cs, by simp,
            .elem _ ch t cs (.pair x y z w x' y' z' w' cp lo ch hcp hh hlo hl hch) hb, rfl⟩
        · exact ⟨'\\' :: 'u' :: x :: y :: z :: w :: t, fffd :: cs, by simp,
            .loneHigh x y z w cp t cs ht hcp hh (fun hst => hns hst.mono) hb, rfl⟩
      · obtain ⟨t, cs, rfl, hb, rfl⟩ := ihN _ _ _ _ _ _ _ h
        exact ⟨'\\' :: 'u' :: x :: y :: z :: w :: t, fffd :: cs, by simp,
          .loneLow x y z w lo t cs hinv hlo hl hb, by simp⟩

theorem strLoopO_sound (o : ParseOptions) {bad : Bool} : ∀ (fuel : List Char),
    (∀ acc l pos a r p q, strLoopAux o bad fuel acc none l pos = .ok (a, r, p, q) →
      ∃ t cs, l = t ++ '"' :: r ∧ LBody o t cs ∧ a = acc ++ cs) ∧
    (∀ acc ph hv l pos a r p q, isHigh hv = true →
      strLoopAux o bad fuel acc (some (ph, hv)) l pos = .ok (a, r, p, q) →
      (∃ x y z w lo ch t cs, l = '\\' :: 'u' :: x :: y :: z :: w :: (t ++ '"' :: r) ∧
        hexCp x y z w = some lo ∧ isLow lo = true ∧ ofCp (pairCp hv lo) = some ch ∧ LBody o t cs ∧
        a = acc ++ ch :: cs) ∨
      (o.trunc = true ∧ ¬ StartsLow l ∧ ∃ t cs, l = t ++ '"' :: r ∧ LBody o t cs ∧ a = acc ++ fffd :: cs)) := by
  intro fuel
  show SoundN o bad fuel ∧ SoundS o bad fuel
  induction fuel with
  | nil =>
    have hN : SoundN o bad [] := .of fun _ _ e => nomatch e
    exact ⟨hN, .of hN fun _ _ e => nomatch e⟩
  | cons f fuel ih =>
    have hN : SoundN o bad (f :: fuel) := .of fun _ _ e => by cases e; exact ih
    exact ⟨hN, .of hN fun _ _ e => by cases e; exact ih.1⟩

/-- whether a body followed by the closing quote starts with a low-surrogate escape is decided inside
    the body -/
theorem lbody_startsLow {o : ParseOptions} {ts cs : List Char} (hb : LBody o ts cs) (r : List Char)
    (h : StartsLow (ts ++ '"' :: r)) : StartsLow ts := by
  obtain ⟨a, b, c, d, lo, r0, he, hlo, hl⟩ := h
  -- a body that begins with a `\uXXXX` escape: the text after the body is not looked at
  have unit : ∀ {a' b' c' d' : Char} {ts' : List Char},
      '\\' :: 'u' :: a' :: b' :: c' :: d' :: ts' ++ '"' :: r = '\\' :: 'u' :: a :: b :: c :: d :: r0 →
      StartsLow ('\\' :: 'u' :: a' :: b' :: c' :: d' :: ts') := fun he => by
    simp only [List.cons_append, List.cons.injEq, true_and] at he
    obtain ⟨rfl, rfl, rfl, rfl, _⟩ := he
    exact ⟨_, _, _, _, lo, _, rfl, hlo, hl⟩
  cases hb with
  | nil => cases he
  | elem t ch ts' cs' hel hb' =>
    cases hel with
    | raw c' h1 h2 h3 => exact absurd (List.cons.inj he).1 h2
    | esc e ch' h1 h2 => exact absurd (List.cons.inj (List.cons.inj he).2).1 h1
    | u a' b' c' d' cp ch' h1 h2 h3 => exact unit he
    | pair a' b' c' d' a'' b'' c'' d'' hi lo' ch' h1 h2 h3 h4 h5 => exact unit he
  | loneHigh a' b' c' d' hi ts' cs' ht h1 h2 hn hb' => exact unit he
  | loneLow a' b' c' d' lo' ts' cs' hi h1 h2 hb' => exact unit he

/-- an accepted element is not empty and costs one unit of fuel: the loop goes on behind it, and fuel
    for the text read is fuel enough -/
theorem strLoopAux_elem {o : ParseOptions} {high hi : Option (Nat × Nat)} {w : List Char} {e : Elem}
    {pos : Nat} {cs : List Char} (hr : Reads w e)
    (he : onElem o high pos (pos + utf8Len w) e = .out cs hi false) {x fuel : List Char}
    (hf : (w ++ x).length ≤ fuel.length) :
    ∃ fuel', x.length ≤ fuel'.length ∧ ∀ bad acc r, strLoopAux o bad fuel acc high (w ++ r) pos =
      strLoopAux o bad fuel' (acc ++ cs) hi r (pos + utf8Len w) := by
  have := List.length_pos_iff.mpr hr.ne_nil
  rw [List.length_append] at hf
  cases fuel with
  | nil => simp only [List.length_nil] at hf; omega
  | cons f fuel =>
    exact ⟨fuel, by simp only [List.length_cons] at hf; omega,
      fun _ _ _ => strLoopAux_more (strStep_out hr he ..) ..⟩

theorem strLoopO_complete {o : ParseOptions} {bad : Bool} {t cs : List Char} (hb : LBody o t cs) :
    ∀ (fuel acc r : List Char) (pos : Nat), t.length ≤ fuel.length →
      ∃ p q, strLoopAux o bad fuel acc none (t ++ '"' :: r) pos = .ok (acc ++ cs, r, p, q) := by
  induction hb with
  | nil =>
    intro fuel acc r pos _
    exact ⟨_, _, by rw [strLoopAux, List.nil_append, strStepO_quote, List.append_nil]⟩
  | elem te ch ts cs hel _ ih =>
    intro fuel acc r pos hf
    rcases hel.reads o with ⟨e, hr, he⟩ | ⟨w1, w2, hi, lo, rfl, hr1, hr2, he1, he2⟩
    · obtain ⟨fuel', hf', e⟩ := strLoopAux_elem hr (he ..) hf
      rw [List.append_assoc, e]
      exact List.append_assoc acc [ch] cs ▸ ih fuel' (acc ++ [ch]) r _ hf'
    · rw [List.append_assoc] at hf
      obtain ⟨fuel1, hf1, e1⟩ := strLoopAux_elem hr1 (he1 ..) hf
      obtain ⟨fuel', hf', e2⟩ := strLoopAux_elem hr2 (he2 ..) hf1
      rw [List.append_assoc, List.append_assoc, e1, e2, List.append_nil]
      exact List.append_assoc acc [ch] cs ▸ ih fuel' (acc ++ [ch]) r _ hf'
  | loneHigh a b c d hi ts cs ht h1 h2 hn hb' ih =>
    intro fuel acc r pos hf
    obtain ⟨fuel', hf', e⟩ := strLoopAux_elem (o := o) (high := none) (pos := pos) (.u a b c d hi h1)
      (cs := []) (hi := some (pos + 1, hi)) (by simp only [onElem, onElem0, h2, ↓reduceIte]) hf
    rw [show '\\' :: 'u' :: a :: b :: c :: d :: ts ++ '"' :: r = ['\\', 'u', a, b, c, d] ++ (ts ++ '"' :: r)
        from rfl, e, List.append_nil,
      strLoopAux_trunc ht _ _ _ _ _ _ _ (fun hs => hn (lbody_startsLow hb' r hs))]
    exact List.append_assoc acc [fffd] cs ▸ ih fuel' (acc ++ [fffd]) r _ hf'
  | loneLow a b c d lo ts cs hinv h1 h2 hb' ih =>
    intro fuel acc r pos hf
    obtain ⟨fuel', hf', e⟩ := strLoopAux_elem (o := o) (high := none) (pos := pos) (.u a b c d lo h1)
      (cs := [fffd]) (hi := none)
      (by simp [onElem, onElem0, isLow_not_high h2, ofCp_low_none h2, hinv]) hf
    rw [show '\\' :: 'u' :: a :: b :: c :: d :: ts ++ '"' :: r = ['\\', 'u', a, b, c, d] ++ (ts ++ '"' :: r)
        from rfl, e]
    exact List.append_assoc acc [fffd] cs ▸ ih fuel' (acc ++ [fffd]) r _ hf'

theorem lexString_iff (o : ParseOptions) (s : PS) (str : List Char) (r : List Char) :
    (∃ s', lexString o s = .ok (str, s') ∧ s'.rest = r) ↔ ∃ t, s.rest = t ++ r ∧ LString o t str := by
  constructor
  · rintro ⟨s', h, rfl⟩
    obtain ⟨r0, r', p, hr, hv, h1⟩ := lexString_ok.1 h
    obtain ⟨q, hv⟩ := strScan_ok.1 hv
    obtain ⟨t, cs, hl, hb, ha⟩ := (strLoopO_sound o (bad := s.bad) r0).1 _ _ _ _ _ _ _ hv
    subst ha
    refine ⟨'"' :: (t ++ ['"']), ?_, .mk t _ hb⟩
    rw [(endFragment_rest h1).1, hr, hl]
    simp
  · rintro ⟨t, hs, hg⟩
    cases hg with
    | mk body cs hb =>
      obtain ⟨p, q, hl⟩ := strLoopO_complete (bad := s.bad) hb (body ++ '"' :: r) [] r
        (s.pos + '"'.utf8Size) (by simp)
      obtain ⟨s2, h2, hr2⟩ := leaf_close (s := s) (s1 := { s.reserve with rest := r, pos := p }) rfl
      exact ⟨s2, lexString_ok.2 ⟨body ++ '"' :: r, r, p, by rw [hs]; simp, strScan_ok.2 ⟨q, hl⟩, h2⟩, hr2⟩

end JsonVerif
