import JsonVerif.Lemmas.Run
/-!
# The `unwrap()` of `end_fragment` never fails (C03: no panic)

Invariant: every code-map index held by the machine (container indices on the stack, pending entry
indices) is below the current size of the code map; the lexical functions only ever close indices
they reserved themselves or that they were handed by the machine.
-/
namespace JsonVerif

theorem endFragment_np {s : PS} {i : Nat} (h : i < s.cm.size) : s.endFragment i ≠ .error .panic :=
  fun e => Nat.not_le_of_lt h (endFragment_error.1 e).1

theorem skipWs_np {s : PS} : skipWs s ≠ .error .panic := fun h => nomatch (skipWs_error.1 h).2.2

theorem eofErrAt_np {b : Bool} {p : Nat} : eofErrAt b p ≠ .panic := by unfold eofErrAt; split <;> simp

theorem eofErr_np {s : PS} : s.eofErr ≠ .panic := eofErrAt_np

theorem numScan_np {ctx : Ctx} {bad : Bool} {l : List Char} {pos : Nat} :
    numScan ctx bad l pos ≠ .error .panic := by
  intro h
  rcases numScan_error_shape h with ⟨_, _, _, _, _, he⟩ | ⟨_, he⟩ | he <;> cases he

theorem strStep_np {o : ParseOptions} {bad : Bool} {acc : List Char} {high : Option (Nat × Nat)}
    {l : List Char} {pos : Nat} : strStep o bad acc high l pos ≠ .err .panic := by
  intro h
  rcases strStep_cases o bad acc high l pos with ⟨_, _, _, _, _, hs⟩ | ⟨_, t, _, _, hs⟩ <;> rw [hs] at h
  · cases onElem_err (Act.run_eq_err h)
  · injection h with h
    cases t with
    | nil => exact eofErrAt_np h
    | cons => cases h

theorem strLoopAux_np {o : ParseOptions} {bad : Bool} (fuel : List Char)
    {acc : List Char} {high : Option (Nat × Nat)} {l : List Char} {pos : Nat}
    (hl : l.length ≤ fuel.length) : strLoopAux o bad fuel acc high l pos ≠ .error .panic := by
  induction fuel, acc, high, l, pos using strLoopAux_induct (o := o) (bad := bad) with
  | done hs => rw [strLoopAux_done hs]; nofun
  | err hs => rw [strLoopAux_err hs]; intro hh; cases hh; exact strStep_np hs
  | fuel hs => have := strStep_len hs; simp only [List.length_nil] at hl; omega
  | more hs ih => rw [strLoopAux_more hs]; have := strStep_len hs; exact ih (by simp at hl; omega)

theorem strScan_np {o : ParseOptions} {bad : Bool} {l : List Char} {pos : Nat} :
    strScan o bad l pos ≠ .error .panic :=
  fun h => strLoopAux_np _ (Nat.le_refl _) (strScan_error.1 h)

/-- indices carried by a fragment are valid for the state it is returned with -/
def Fragment.IdxOk (f : Fragment) (s : PS) : Prop :=
  match f with
  | .value _ => True
  | .beginArray i => i < s.cm.size
  | .beginObject i _ e => i < s.cm.size ∧ e < s.cm.size

/-! Whether `end_fragment` finds its entry depends on the state: the index must be below the size of
the code map, and the code map only grows. `Safe n Q m` is about the states with at least `n`
entries: from there `m` does not panic and ends with at least `n` entries and with `Q` of its
result. Closing an index below `n` is safe; `begin_fragment` hands the rest of the program an index
`i` and a state with more than `i` entries. The other constructions of a program pass `n` on. -/

open Lex

def Safe (n : Nat) (Q : α → PS → Prop) (m : Lex α) : Prop :=
  ∀ ⦃s⦄, n ≤ s.cm.size → m s ≠ .error .panic ∧ ∀ ⦃a s'⦄, m s = .ok (a, s') → n ≤ s'.cm.size ∧ Q a s'

abbrev Safe.Any : α → PS → Prop := fun _ _ => True

namespace Safe
variable {n : Nat} {Q : α → PS → Prop}

theorem bind {m : Lex β} {k : β → Lex α} {Q' : β → PS → Prop} (hm : Safe n Q' m)
    (hk : ∀ b, Safe n Q (k b)) : Safe n Q (bind m k) := fun s hs => by
  refine ⟨fun h => ?_, fun a s2 h => ?_⟩
  · rcases bind_error.1 h with h1 | ⟨b, _, h1, h2⟩
    · exact (hm hs).1 h1
    · exact (hk b ((hm hs).2 h1).1).1 h2
  · obtain ⟨b, _, h1, h2⟩ := Lex.bind_ok.1 h
    exact (hk b ((hm hs).2 h1).1).2 h2

/-- `m` with its result mapped through `f`: what `Q'` says of the one gives `Q` of the other -/
theorem map {m : Lex β} {Q' : β → PS → Prop} (hm : Safe n Q' m) (f : β → α)
    (hq : ∀ b s', n ≤ s'.cm.size → Q' b s' → Q (f b) s') : Safe n Q (Lex.bind m fun b => pure (f b)) :=
  fun s hs => by
    refine ⟨fun h => (hm hs).1 (bind_pure_error h), fun a s2 h => ?_⟩
    obtain ⟨_, _, h1, h2⟩ := Lex.bind_ok.1 h
    have := (hm hs).2 h1
    cases pure_ok.1 h2
    exact ⟨this.1, hq _ _ this.1 this.2⟩

/-- `begin_fragment`: the program goes on with more entries than its index -/
theorem reserve {k : Nat → Lex α} (hk : ∀ i, Safe (i + 1) Q (k i)) : Safe n Q (Lex.bind reserve k) :=
  fun s hs => by
    have := hk _ (s := s.reserve) (reserve_lt s)
    exact ⟨this.1, fun _ _ h => ⟨Nat.le_trans (Nat.le_succ_of_le hs) (this.2 h).1, (this.2 h).2⟩⟩

theorem ite {c : Prop} [Decidable c] {a b : Lex α} (ha : Safe n Q a) (hb : Safe n Q b) :
    Safe n Q (if c then a else b) := by
  split <;> assumption

theorem peekC {k : Char → Lex α} (hk : ∀ c, Safe n Q (k c)) : Safe n Q (peekC k) := fun s hs => by
  unfold Lex.peekC
  split
  · exact ⟨fun h => eofErr_np (Except.error.inj h), nofun⟩
  · exact hk _ hs

theorem peek {k : Option Char → Lex α} (hk : ∀ c, Safe n Q (k c)) : Safe n Q (peek k) :=
  fun _ hs => hk _ hs

theorem pure {a : α} (h : ∀ s, n ≤ s.cm.size → Q a s) : Safe n Q (pure a) :=
  fun s hs => ⟨nofun, fun _ _ hh => by cases hh; exact ⟨hs, h s hs⟩⟩

theorem unexpectedHere : Safe n Q unexpectedHere := fun _ _ => ⟨nofun, nofun⟩

theorem of {m : Lex α} (grow : ∀ {s a s'}, m s = .ok (a, s') → s.cm.size ≤ s'.cm.size)
    (np : ∀ s, m s ≠ .error .panic) : Safe n Any m :=
  fun s hs => ⟨np s, fun _ _ h => ⟨Nat.le_trans hs (grow h), trivial⟩⟩

/-- a raw scanner does not touch the code map -/
theorem raw {f : Bool → List Char → Nat → Except PErr (α × List Char × Nat)}
    (np : ∀ {bad l pos}, f bad l pos ≠ .error .panic) : Safe n Any (raw f) :=
  .of (fun h => by obtain ⟨_, _, _, rfl⟩ := raw_ok.1 h; exact Nat.le_refl _) fun _ h => np (raw_error.1 h)

theorem next : Safe n Any next := .of (fun h => (WB.next.adv h).2.2) fun _ => next_ne_error

theorem skipWs : Safe n Any (Lex.lift skipWs) :=
  .of (fun h => (skipWs_adv (lift_ok.1 h)).2.2) fun _ h => skipWs_np (lift_error.1 h)

theorem expectChar (c : Char) : Safe n Any (Lex.lift (expectChar c)) :=
  expectChar_eq c ▸ .peekC fun _ => .ite .next .unexpectedHere

theorem expectChars : ∀ cs : List Char, Safe n Any (Lex.lift (expectChars cs))
  | [] => .pure fun _ _ => trivial
  | c :: cs => expectChars_cons c cs ▸ .bind (.expectChar c) fun _ => expectChars cs

theorem endFragment {i : Nat} (hi : i < n) : Safe n Any (Lex.lift (·.endFragment i)) := fun s hs => by
  obtain ⟨_, h⟩ := endFragment_total (Nat.lt_of_lt_of_le hi hs)
  rw [lift_ok.2 h]
  exact ⟨nofun, fun _ _ hh => by cases hh; exact ⟨Nat.le_trans hs (adv_end h).2.2, trivial⟩⟩

theorem close {i : Nat} (hi : i < n) {a : α} (hq : ∀ s, Q a s) : Safe n Q (close i a) :=
  .bind (.endFragment hi) fun _ => .pure fun s _ => hq s

theorem literal {i : Nat} (hi : i < n) (cs : List Char) (a : α) : Safe n Any (literal cs i a) :=
  .bind (.expectChars cs) fun _ => .close hi fun _ => trivial

theorem closer {i : Nat} (hi : i < n) {a : α} (hq : ∀ s, Q a s) : Safe n Q (closer i a) :=
  .bind .next fun _ => .close hi hq

/-- the continuation runs with more entries than the index it is given (`reserve`) -/
theorem opener {c d : Char} {v : α} {k : Nat → Lex α} (hv : ∀ s, Q v s) (hk : ∀ i, Safe (i + 1) Q (k i)) :
    Safe n Q (opener c d v k) :=
  .reserve fun i => .bind (.expectChar c) fun _ => .bind .skipWs fun _ => .peek fun _ =>
    .ite (.closer (Nat.lt_succ_self i) hv) (hk i)

theorem lexNumber (ctx : Ctx) : Safe n Any (lexNumber ctx) := lexNumber_eq ctx ▸
  .reserve fun i => .bind (.raw numScan_np) fun _ => .close (Nat.lt_succ_self i) fun _ => trivial

theorem lexString (o : ParseOptions) : Safe n Any (lexString o) := lexString_eq o ▸
  .reserve fun i => .peekC fun _ =>
    .ite (.bind .next fun _ => .bind (.raw strScan_np) fun _ => .close (Nat.lt_succ_self i) fun _ => trivial)
      .unexpectedHere

theorem lexNull : Safe n Any (Lex.lift lexNull) := lexNull_eq ▸
  .reserve fun i => .literal (Nat.lt_succ_self i) _ _

theorem lexBool : Safe n Any lexBool := lexBool_eq ▸
  .reserve fun i => .peekC fun _ =>
    .ite (.literal (Nat.lt_succ_self i) _ _) <| .ite (.literal (Nat.lt_succ_self i) _ _) .unexpectedHere

theorem lexKeyColon (o : ParseOptions) :
    Safe n (fun ke s => ke.2 < s.cm.size) (ofTriple (JsonVerif.lexKeyColon o)) := lexKeyColon_eq o ▸
  .reserve fun _ => .bind (.lexString o) fun _ => .bind .skipWs fun _ => .bind (.expectChar _) fun _ =>
    .pure fun _ hs => hs

theorem startObjectKey (o : ParseOptions) {i : Nat} (hi : i < n) :
    Safe n (fun f s => f.IdxOk s) (startObjectKey o i) := startObjectKey_eq o i ▸
  .map (.lexKeyColon o) _ fun _ _ hs h => ⟨Nat.lt_of_lt_of_le hi hs, h⟩

theorem startArray : Safe n (fun f s => f.IdxOk s) startArray :=
  startArray_eq ▸ .opener (fun _ => trivial) fun _ => .pure fun _ hs => hs

theorem startObject (o : ParseOptions) : Safe n (fun f s => f.IdxOk s) (startObject o) :=
  startObject_eq o ▸ .opener (fun _ => trivial) fun i => .startObjectKey o (Nat.lt_succ_self i)

theorem parseFragment (o : ParseOptions) (ctx : Ctx) : Safe n (fun f s => f.IdxOk s) (parseFragment o ctx) :=
  parseFragment_eq o ctx ▸
  .bind .skipWs fun _ => .peekC fun _ =>
    .ite (.bind .lexNull fun _ => .pure fun _ _ => trivial) <|
    .ite (.bind .lexBool fun _ => .pure fun _ _ => trivial) <|
    .ite (.bind (.lexNumber ctx) fun _ => .pure fun _ _ => trivial) <|
    .ite (.bind (.lexString o) fun _ => .pure fun _ _ => trivial) <|
    .ite .startArray <| .ite (.startObject o) .unexpectedHere

theorem contArray {i : Nat} (hi : i < n) : Safe n Any (contArray i) := contArray_eq i ▸
  .bind .skipWs fun _ => .peekC fun _ =>
    .ite (.bind .next fun _ => .pure fun _ _ => trivial) <| .ite (.closer hi fun _ => trivial) .unexpectedHere

theorem contObject (o : ParseOptions) {i : Nat} (hi : i < n) :
    Safe n (fun c s => ∀ k e, c = .entry k e → e < s.cm.size) (contObject o i) := contObject_eq o i ▸
  .bind .skipWs fun _ => .peekC fun _ =>
    .ite (.bind .next fun _ => .bind .skipWs fun _ =>
      .map (.lexKeyColon o) _ fun _ke _s' _ he _k _e hc => by cases hc; exact he) <|
    .ite (.closer hi fun _ => nofun) .unexpectedHere

theorem finish (v : JValue) : Safe n Any (finish v) := finish_eq v ▸
  .bind .skipWs fun _ => .peek fun _ => .ite (.pure fun _ _ => trivial) .unexpectedHere

end Safe

def StackOk (n : Nat) : List StackItem → Prop
  | [] => True
  | .array _ i :: k => i < n ∧ StackOk n k
  | .arrayItem _ i :: k => i < n ∧ StackOk n k
  | .object _ i :: k => i < n ∧ StackOk n k
  | .objectEntry _ i _ e :: k => i < n ∧ e < n ∧ StackOk n k

theorem StackOk.mono {n m : Nat} (h : n ≤ m) : ∀ {k : List StackItem}, StackOk n k → StackOk m k
  | [], _ => trivial
  | .array _ _ :: _, ⟨a, b⟩ => ⟨Nat.lt_of_lt_of_le a h, StackOk.mono h b⟩
  | .arrayItem _ _ :: _, ⟨a, b⟩ => ⟨Nat.lt_of_lt_of_le a h, StackOk.mono h b⟩
  | .object _ _ :: _, ⟨a, b⟩ => ⟨Nat.lt_of_lt_of_le a h, StackOk.mono h b⟩
  | .objectEntry _ _ _ _ :: _, ⟨a, b, c⟩ =>
    ⟨Nat.lt_of_lt_of_le a h, Nat.lt_of_lt_of_le b h, StackOk.mono h c⟩

theorem StackOk.enter {k : List StackItem} {f : Fragment} {s : PS} (hf : f.IdxOk s)
    (hk : StackOk s.cm.size k) : StackOk s.cm.size (f.enter k).1 := by
  cases f with
  | value => exact hk
  | beginArray => exact ⟨hf, hk⟩
  | beginObject => exact ⟨hf.1, hf.2, hk⟩

theorem contObject_entry_lt {o : ParseOptions} {i : Nat} {s : PS} {key : List Char} {e : Nat} {s' : PS}
    (hi : i < s.cm.size) (h : contObject o i s = .ok (.entry key e, s')) : e < s'.cm.size :=
  ((Safe.contObject o hi (Nat.le_refl _)).2 h).2 key e rfl

theorem Goto.stackOk {o k v s k' v' s'} (h : Goto o k v s k' v' s') (hk : StackOk s.cm.size k) :
    StackOk s'.cm.size k' := by
  have hm := StackOk.mono h.adv.2.2 hk
  cases h with
  | frag _ h => exact .enter ((Safe.parseFragment o _ (Nat.zero_le _)).2 h).2 hm
  | item => exact hk
  | entry => exact ⟨hm.1, hm.2.2⟩
  | arr h =>
    rename_i c; cases c
    · exact hm
    · exact hm.2
  | obj h =>
    rename_i c; cases c
    · exact ⟨hm.1, contObject_entry_lt hk.1 h, hm.2⟩
    · exact hm.2

theorem run_np {o : ParseOptions} {stack : List StackItem} {value : Option JValue} {s : PS}
    (hk : StackOk s.cm.size stack) : run o stack value s ≠ .error .panic := by
  induction stack, value, s using run_induct o with
  | halt hh =>
    rw [run_halt hh]
    cases hh with
    | finish => exact (Safe.finish _ (Nat.zero_le _)).1
    | frag _ h => intro hh; cases hh; exact (Safe.parseFragment o _ (Nat.zero_le _)).1 h
    | entry h => intro hh; cases hh; exact endFragment_np hk.2.1 h
    | arr h => intro hh; cases hh; exact (Safe.contArray hk.1 (Nat.le_refl _)).1 h
    | obj h => intro hh; cases hh; exact (Safe.contObject o hk.1 (Nat.le_refl _)).1 h
  | goto hg ih => rw [run_goto hg]; exact ih (hg.stackOk hk)

end JsonVerif
