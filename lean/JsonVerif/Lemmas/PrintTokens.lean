import JsonVerif.Lemmas.PrintP
import JsonVerif.Model.ParseBasic
/-!
# Printing only ever adds insignificant whitespace between the value's tokens (C04)

`toks v` is the token sequence of a value (punctuation, scalar texts, string literals), exactly the
sequence `refSerialize` concatenates. `Interleave ts t` says that `t` is `ts` with JSON whitespace
(space, tab, LF, CR) inserted only *between* tokens. Every layout the printer can produce — any
option record, any indentation — is such an interleaving of the same tokens.
-/
namespace JsonVerif

mutual
def toks : JValue → List (List Char)
  | .null => [nullText]
  | .bool b => [boolText b]
  | .number n => [n]
  | .string s => [stringLiteral s]
  | .array xs => ['['] :: toksL xs 0 ++ [[']']]
  | .object es => ['{'] :: toksM es 0 ++ [['}']]
def toksL : List JValue → Nat → List (List Char)
  | [], _ => []
  | x :: xs, i => (if i > 0 then [[',']] else []) ++ toks x ++ toksL xs (i + 1)
def toksM : List (List Char × JValue) → Nat → List (List Char)
  | [], _ => []
  | (k, x) :: es, i =>
    (if i > 0 then [[',']] else []) ++ [stringLiteral k, [':']] ++ toks x ++ toksM es (i + 1)
end

def AllWs (w : List Char) : Prop := ∀ c ∈ w, isWs c = true

inductive Interleave : List (List Char) → List Char → Prop
  | nil (w : List Char) : AllWs w → Interleave [] w
  | cons (w t : List Char) (ts : List (List Char)) (rest : List Char) :
      AllWs w → Interleave ts rest → Interleave (t :: ts) (w ++ t ++ rest)

theorem AllWs.nil : AllWs [] := by intro c h; cases h
theorem AllWs.append {a b : List Char} (ha : AllWs a) (hb : AllWs b) : AllWs (a ++ b) :=
  fun c h => (List.mem_append.mp h).elim (ha c) (hb c)
theorem AllWs.spaces (n : Nat) : AllWs (spaces n) :=
  fun _ h => List.eq_of_mem_replicate h ▸ rfl
theorem AllWs.nl : AllWs ['\n'] := fun _ h => List.mem_singleton.1 h ▸ rfl
theorem AllWs.indent (o : PrintOptions) (n : Nat) : AllWs (indentBy o n) := by
  intro c h
  simp only [indentBy, List.mem_flatten, List.mem_replicate] at h
  obtain ⟨l, ⟨_, rfl⟩, hc⟩ := h
  generalize o.indent = u at hc
  cases u <;> exact List.eq_of_mem_replicate hc ▸ rfl

theorem Interleave.prepend {ts : List (List Char)} {t w : List Char} (hw : AllWs w)
    (h : Interleave ts t) : Interleave ts (w ++ t) := by
  cases h with
  | nil w' hw' => exact .nil _ (hw.append hw')
  | cons w' t' ts' rest hw' hr => simpa using Interleave.cons _ t' _ _ (hw.append hw') hr

theorem Interleave.append {a b : List (List Char)} {x y : List Char}
    (ha : Interleave a x) (hb : Interleave b y) : Interleave (a ++ b) (x ++ y) := by
  induction ha with
  | nil w hw => exact hb.prepend hw
  | cons w t ts rest hw _ ih => simpa using Interleave.cons _ t _ _ hw ih

theorem Interleave.tokWs (t : List Char) {w : List Char} (hw : AllWs w) : Interleave [t] (t ++ w) :=
  .cons [] t [] w .nil (.nil w hw)

theorem Interleave.single (t : List Char) : Interleave [t] t := by
  simpa using Interleave.tokWs t .nil

theorem Interleave.sep {i : Nat} {ts a : List (List Char)} {s x : List Char}
    (hs : Interleave ts s) (h : Interleave a x) :
    Interleave ((if i > 0 then ts else []) ++ a) ((if i > 0 then s else []) ++ x) := by
  split
  · exact hs.append h
  · exact h

theorem Interleave.bracket (l r : Char) {ts : List (List Char)} {w₁ w₂ x : List Char}
    (h₁ : AllWs w₁) (h : Interleave ts x) (h₂ : AllWs w₂) :
    Interleave ([l] :: ts ++ [[r]]) (l :: w₁ ++ x ++ w₂ ++ [r]) := by
  simpa using ((Interleave.tokWs [l] h₁).append h).append ((Interleave.nil _ h₂).append (.single [r]))

theorem Interleave.brackets (l r : Char) {w : List Char} (h : AllWs w) :
    Interleave [[l], [r]] (l :: w ++ [r]) :=
  (Interleave.tokWs [l] h).append (.single [r])

theorem keyText_interleave (o : PrintOptions) (k : List Char) :
    Interleave [stringLiteral k, [':']] (keyText o k) :=
  (Interleave.tokWs (stringLiteral k) (.spaces o.objectBeforeColon)).append
    (.tokWs [':'] (.spaces o.objectAfterColon))

theorem comma_interleave {w₁ w₂ : List Char} (h₁ : AllWs w₁) (h₂ : AllWs w₂) :
    Interleave [[',']] (w₁ ++ ',' :: w₂) :=
  (Interleave.nil _ h₁).append (.tokWs [','] h₂)

mutual
theorem oneLine_interleave (o : PrintOptions) : ∀ v, Interleave (toks v) (oneLine o v) := by
  intro v
  cases v with
  | null | bool _ | number _ | string _ => exact Interleave.single _
  | array xs =>
    have ih := oneLineL_interleave o xs 0
    cases xs with
    | nil => exact .brackets '[' ']' (.spaces o.arrayEmpty)
    | cons x xs => exact .bracket '[' ']' (.spaces o.arrayBegin) ih (.spaces o.arrayEnd)
  | object es =>
    have ih := oneLineM_interleave o es 0
    cases es with
    | nil => exact .brackets '{' '}' (.spaces o.objectEmpty)
    | cons e es => exact .bracket '{' '}' (.spaces o.objectBegin) ih (.spaces o.objectEnd)
theorem oneLineL_interleave (o : PrintOptions) : ∀ xs i, Interleave (toksL xs i) (oneLineL o xs i)
  | [], _ => .nil _ .nil
  | x :: xs, i => by
    simp only [toksL, oneLineL, List.append_assoc]
    exact .sep (comma_interleave (.spaces _) (.spaces _))
      ((oneLine_interleave o x).append (oneLineL_interleave o xs (i + 1)))
theorem oneLineM_interleave (o : PrintOptions) : ∀ es i, Interleave (toksM es i) (oneLineM o es i)
  | [], _ => .nil _ .nil
  | (k, x) :: es, i => by
    simp only [toksM, oneLineM, List.append_assoc]
    exact .sep (comma_interleave (.spaces _) (.spaces _)) ((keyText_interleave o k).append
      ((oneLine_interleave o x).append (oneLineM_interleave o es (i + 1))))
end

theorem nlIndent_ws (o : PrintOptions) (n : Nat) : AllWs ('\n' :: indentBy o n) :=
  AllWs.nl.append (AllWs.indent o n)

mutual
theorem spec_interleave (o : PrintOptions) : ∀ v ind, Interleave (toks v) (specPrint o ind v) := by
  intro v ind
  cases hi : inl o v
  · cases v with
    | null | bool _ | number _ | string _ => exact Interleave.single _
    | array xs =>
      have ih := specL_interleave o xs 0 ind
      rw [specPrint, hi]
      cases xs with
      | nil => exact .brackets '[' ']' (nlIndent_ws o ind)
      | cons x xs => exact .bracket '[' ']' .nl ih (nlIndent_ws o ind)
    | object es =>
      have ih := specM_interleave o es 0 ind
      rw [specPrint, hi]
      cases es with
      | nil => exact .brackets '{' '}' (nlIndent_ws o ind)
      | cons e es => exact .bracket '{' '}' .nl ih (nlIndent_ws o ind)
  · rw [spec_inl o ind v hi]
    exact oneLine_interleave o v
theorem specL_interleave (o : PrintOptions) :
    ∀ xs i ind, Interleave (toksL xs i) (specL o ind xs i)
  | [], _, _ => .nil _ .nil
  | x :: xs, i, ind => by
    simp only [toksL, specL, List.append_assoc]
    exact .sep (comma_interleave (.spaces _) .nl) (((spec_interleave o x (ind + 1)).append
      (specL_interleave o xs (i + 1) ind)).prepend (.indent o (ind + 1)))
theorem specM_interleave (o : PrintOptions) :
    ∀ es i ind, Interleave (toksM es i) (specM o ind es i)
  | [], _, _ => .nil _ .nil
  | (k, x) :: es, i, ind => by
    simp only [toksM, specM, List.append_assoc]
    exact .sep (comma_interleave (.spaces _) .nl) (((keyText_interleave o k).append
      ((spec_interleave o x (ind + 1)).append (specM_interleave o es (i + 1) ind))).prepend
      (.indent o (ind + 1)))
end

mutual
theorem refSerialize_flatten : ∀ v, refSerialize v = (toks v).flatten
  | .null | .bool _ | .number _ | .string _ => (List.append_nil _).symm
  | .array xs => by simp [refSerialize, toks, refSerializeL_flatten xs 0]
  | .object es => by simp [refSerialize, toks, refSerializeM_flatten es 0]
theorem refSerializeL_flatten : ∀ xs i, refSerializeL xs i = (toksL xs i).flatten
  | [], _ => rfl
  | x :: xs, i => by
    simp [refSerializeL, toksL, refSerialize_flatten x, refSerializeL_flatten xs (i + 1),
      apply_ite List.flatten]
theorem refSerializeM_flatten : ∀ es i, refSerializeM es i = (toksM es i).flatten
  | [], _ => rfl
  | (k, x) :: es, i => by
    simp [refSerializeM, toksM, refSerialize_flatten x, refSerializeM_flatten es (i + 1),
      apply_ite List.flatten]
end

end JsonVerif
