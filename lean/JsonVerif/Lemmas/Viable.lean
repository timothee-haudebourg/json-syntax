import JsonVerif.Lemmas.LocalRun
import JsonVerif.Lemmas.Conservative
import JsonVerif.Lemmas.LHub
/-!
# No text that continues past the reported character is JSON (C07, upper bound of the viable prefix)

The strict parser's unexpected-character error depends only on the input up to and including the
reported character, and is reported under every option record (`parse_error_local`: the error is
raised on an option-independent branch, `run_emono`, and what the machine does before it has looked
past a prefix does not depend on what follows, `run_local_err`); by completeness none of the inputs
that begin so is in the grammar (`not_viable_beyond`, which states `¬ Viable (pre ++ [c])` unfolded).
-/
namespace JsonVerif

namespace C07
/-- the notion of C07: some continuation of `pre` is a JSON text when any `\uXXXX` escape is allowed -/
def Viable (pre : List Char) : Prop := ∃ suffix v, LDoc allOpts (pre ++ suffix) v
end C07

theorem parse_error_local (o : ParseOptions) (pre : List Char) (c : Char) (rest rest' : List Char)
    (h : parseChars strictOpts (pre ++ c :: rest) false = .error (.unexpected (utf8Len pre) (some c))) :
    parseChars o (pre ++ c :: rest') false = .error (.unexpected (utf8Len pre) (some c)) := by
  have h1 := run_emono (o := o) (parseChars_error.1 h)
  have hlt : utf8Len pre < 0 + utf8Len (pre ++ [c]) := by
    have := utf8Size_pos c
    simp only [utf8Len_append, utf8Len_cons, utf8Len_nil]
    omega
  -- the new tail `rest'`, from the initial configuration, with `pre ++ [c]` the common prefix, before
  -- whose end (`hlt`) the error `h1` is reported
  have h2 := run_local_err rest' [] none _ (pre ++ [c]) (List.append_cons pre c rest) h1 hlt
  rw [PS.re, ← List.append_cons] at h2
  exact parseChars_error.2 h2

theorem not_viable_beyond (pre : List Char) (c : Char) (rest : List Char)
    (h : parseChars strictOpts (pre ++ c :: rest) false = .error (.unexpected (utf8Len pre) (some c))) :
    ∀ rest' v, ¬ LDoc allOpts (pre ++ c :: rest') v := by
  intro rest' v hd
  obtain ⟨cm, hc⟩ := parse_complete_o allOpts hd
  rw [parse_error_local allOpts pre c rest rest' h] at hc
  cases hc

end JsonVerif
