import JsonVerif.Model.Machine
/-!
# One iteration of the parsing machine, as a relation

`run` is written arm by arm as the Rust loop is (25 leaves). What an iteration does is decided by
far less: the top frame and whether a value is pending. `Goto` and `Halt` name these few moves;
`run_goto` / `run_halt` say that `run` follows them, `run_progress` that one of them always applies,
and `run_induct` is induction along the iterations. The frame equations behind them (`run_frag` …
`run_obj`) are also used as they stand, where the induction is not along the iterations
(Lemmas/MachineRD.lean).
-/
namespace JsonVerif

/-- the context in which the next fragment is parsed, if the stack awaits a value -/
def awaits : List StackItem → Option Ctx
  | [] => some .none
  | .arrayItem _ _ :: _ => some .array
  | .objectEntry _ _ _ _ :: _ => some .objectValue
  | _ => none

/-- where a parsed fragment takes the machine: a complete value becomes pending, an opened
    container becomes the top frame -/
def Fragment.enter (k : List StackItem) : Fragment → List StackItem × Option JValue
  | .value v => (k, some v)
  | .beginArray i => (.arrayItem [] i :: k, none)
  | .beginObject i key e => (.objectEntry [] i key e :: k, none)

def ArrCont.enter (a : List JValue) (i : Nat) (k : List StackItem) : ArrCont → List StackItem × Option JValue
  | .item => (.arrayItem a i :: k, none)
  | .end_ => (k, some (.array a))

def ObjCont.enter (es : List JEntry) (i : Nat) (k : List StackItem) : ObjCont → List StackItem × Option JValue
  | .entry key e => (.objectEntry es i key e :: k, none)
  | .end_ => (k, some (.object es))

/-- The iterations after which the loop goes on. Where a fragment is a complete value, `run` goes
    on in the same arm with what the awaiting frame does with the value; here `frag` only makes the
    value pending (`Fragment.enter`), and what the frame does with it is the next move (`item`,
    `entry`, or `Halt.finish`). -/
inductive Goto (o : ParseOptions) :
    List StackItem → Option JValue → PS → List StackItem → Option JValue → PS → Prop
  | frag {k ctx s f s'} : awaits k = some ctx → parseFragment o ctx s = .ok (f, s') →
      Goto o k none s (f.enter k).1 (f.enter k).2 s'
  | item {a i k v s} : Goto o (.arrayItem a i :: k) (some v) s (.array (a ++ [v]) i :: k) none s
  | entry {es i key e k v s s'} : s.endFragment e = .ok s' →
      Goto o (.objectEntry es i key e :: k) (some v) s (.object (es ++ [(key, v)]) i :: k) none s'
  | arr {a i k v s c s'} : contArray i s = .ok (c, s') →
      Goto o (.array a i :: k) v s (c.enter a i k).1 (c.enter a i k).2 s'
  | obj {es i k v s c s'} : contObject o i s = .ok (c, s') →
      Goto o (.object es i :: k) v s (c.enter es i k).1 (c.enter es i k).2 s'

/-- The end of the document: trailing whitespace, then end of input. It is the last arm of the
    machine, so its program (`finish_eq`) and its rules (`WB.finish`, `Safe.finish`) stand with the
    machine and not with the other lexers. -/
def finish (v : JValue) (s : PS) : Except PErr (JValue × PS) :=
  match skipWs s with
  | .error e => .error e
  | .ok s1 =>
    match s1.rest with
    | c :: _ => .error (.unexpected s1.pos (some c))
    | [] => .ok (v, s1)

theorem finish_ok {v r : JValue} {s s' : PS} :
    finish v s = .ok (r, s') ↔ skipWs s = .ok s' ∧ s'.rest = [] ∧ r = v := by
  constructor
  · intro h
    unfold finish at h
    split at h
    · cases h
    · split at h <;> cases h
      exact ⟨‹_›, ‹_›, rfl⟩
  · rintro ⟨h1, h2, rfl⟩
    simp only [finish, h1, h2]

open Lex in
theorem finish_eq (v : JValue) : finish v = bind (lift skipWs) fun _ => peek fun d? =>
    if d? = none then pure v else unexpectedHere := by
  funext s
  simp only [finish, Lex.bind, lift, peek]
  cases skipWs s with
  | error e => rfl
  | ok s1 => cases hr : s1.rest <;> simp [unexpectedHere, Lex.pure, hr]

/-- the iterations that end the loop. `finish` carries whatever `finish v s` returns, a result or an error. -/
inductive Halt (o : ParseOptions) :
    List StackItem → Option JValue → PS → Except PErr (JValue × PS) → Prop
  | finish {v s} : Halt o [] (some v) s (finish v s)
  | frag {k ctx s e} : awaits k = some ctx → parseFragment o ctx s = .error e → Halt o k none s (.error e)
  | entry {es i key e k v s x} : s.endFragment e = .error x →
      Halt o (.objectEntry es i key e :: k) (some v) s (.error x)
  | arr {a i k v s e} : contArray i s = .error e → Halt o (.array a i :: k) v s (.error e)
  | obj {es i k v s e} : contObject o i s = .error e → Halt o (.object es i :: k) v s (.error e)

/-! ## `run`, frame by frame

The matches in `run` bind `h :` for the termination proof, so a rewrite with the lexer's result makes
no progress under them: each arm is split once, here. -/

section
variable {o : ParseOptions} {k : List StackItem} {s : PS}

theorem run_done (v : JValue) : run o [] (some v) s = finish v s := by rw [run]; rfl

theorem run_item {a i} {v : JValue} :
    run o (.arrayItem a i :: k) (some v) s = run o (.array (a ++ [v]) i :: k) none s := by
  -- only the left-hand side: `rw [run]` would unfold the `run` on the right as well
  conv => lhs; rw [run]

theorem run_entry {es i key e} {v : JValue} :
    run o (.objectEntry es i key e :: k) (some v) s =
      s.endFragment e >>= fun s' => run o (.object (es ++ [(key, v)]) i :: k) none s' := by
  rw [run]; split <;> rename_i h <;> rw [h] <;> rfl

theorem run_arr {a i} {v : Option JValue} :
    run o (.array a i :: k) v s =
      contArray i s >>= fun r => run o (r.1.enter a i k).1 (r.1.enter a i k).2 r.2 := by
  rw [run]; split <;> rename_i h <;> rw [h] <;> rfl

theorem run_obj {es i} {v : Option JValue} :
    run o (.object es i :: k) v s =
      contObject o i s >>= fun r => run o (r.1.enter es i k).1 (r.1.enter es i k).2 r.2 := by
  rw [run]; split <;> rename_i h <;> rw [h] <;> rfl

/-- for a complete value, `run` has the `some v` arm of the awaiting frame inlined -/
theorem run_frag {ctx} (hk : awaits k = some ctx) :
    run o k none s =
      parseFragment o ctx s >>= fun r => run o (r.1.enter k).1 (r.1.enter k).2 r.2 := by
  match k, hk with
  | [], rfl => rw [run]; split <;> rename_i h <;> rw [h] <;> rfl
  | .arrayItem .. :: _, rfl =>
    rw [run]; split <;> rename_i h <;> rw [h]
    · rfl
    · exact run_item.symm
    · rfl
    · rfl
  | .objectEntry .. :: _, rfl =>
    rw [run]; split <;> rename_i h <;> rw [h]
    · rfl
    · show _ = run o (.objectEntry _ _ _ _ :: _) (some _) _
      rw [run]
    · rfl
    · rfl

end

theorem run_goto {o k v s k' v' s'} (h : Goto o k v s k' v' s') : run o k v s = run o k' v' s' := by
  cases h with
  | frag hk hf => rw [run_frag hk, hf]; rfl
  | item => exact run_item
  | entry h => rw [run_entry, h]; rfl
  | arr h => rw [run_arr, h]; rfl
  | obj h => rw [run_obj, h]; rfl

theorem run_halt {o k v s r} (h : Halt o k v s r) : run o k v s = r := by
  cases h with
  | finish => exact run_done _
  | frag hk hf => rw [run_frag hk, hf]; rfl
  | entry h => rw [run_entry, h]; rfl
  | arr h => rw [run_arr, h]; rfl
  | obj h => rw [run_obj, h]; rfl

theorem run_progress (o : ParseOptions) (k : List StackItem) (v : Option JValue) (s : PS) :
    (∃ r, Halt o k v s r) ∨ ∃ k' v' s', Goto o k v s k' v' s' := by
  have frag : ∀ {k ctx}, awaits k = some ctx →
      (∃ r, Halt o k none s r) ∨ ∃ k' v' s', Goto o k none s k' v' s' := fun {k ctx} hk =>
    match hf : parseFragment o ctx s with
    | .error e => .inl ⟨_, .frag hk hf⟩
    | .ok (f, s') => .inr ⟨_, _, _, .frag hk hf⟩
  match k, v with
  | [], some v => exact .inl ⟨_, .finish⟩
  | [], none => exact frag rfl
  | .arrayItem _ _ :: _, none => exact frag rfl
  | .objectEntry _ _ _ _ :: _, none => exact frag rfl
  | .arrayItem _ _ :: _, some _ => exact .inr ⟨_, _, _, .item⟩
  | .objectEntry _ _ _ e :: _, some _ =>
    match h : s.endFragment e with
    | .error x => exact .inl ⟨_, .entry h⟩
    | .ok s' => exact .inr ⟨_, _, _, .entry h⟩
  | .array _ i :: _, _ =>
    match h : contArray i s with
    | .error x => exact .inl ⟨_, .arr h⟩
    | .ok (c, s') => exact .inr ⟨_, _, _, .arr h⟩
  | .object _ i :: _, _ =>
    match h : contObject o i s with
    | .error x => exact .inl ⟨_, .obj h⟩
    | .ok (c, s') => exact .inr ⟨_, _, _, .obj h⟩

theorem Goto.measure {o k v s k' v' s'} (h : Goto o k v s k' v' s') :
    machineMeasure v' s' < machineMeasure v s := by
  -- a character consumed outweighs the bit for a pending value
  have lt : ∀ {v v' : Option JValue} {s s' : PS}, s'.rest.length < s.rest.length →
      machineMeasure v' s' < machineMeasure v s := fun {v v' s s'} h =>
    calc machineMeasure v' s' ≤ 2 * s'.rest.length + 1 := Nat.add_le_add_left (by split <;> decide) _
      _ < 2 * s.rest.length := by omega
      _ ≤ machineMeasure v s := Nat.le_add_right _ _
  cases h with
  | frag _ hf => exact lt (parseFragment_len hf)
  | item => simp [machineMeasure]
  | entry h => simp [machineMeasure, endFragment_len h]
  | arr h => exact lt (contArray_len h)
  | obj h => exact lt (contObject_len h)

theorem run_induct (o : ParseOptions) {motive : List StackItem → Option JValue → PS → Prop}
    (halt : ∀ {k v s r}, Halt o k v s r → motive k v s)
    (goto : ∀ {k v s k' v' s'}, Goto o k v s k' v' s' → motive k' v' s' → motive k v s)
    (k : List StackItem) (v : Option JValue) (s : PS) : motive k v s := by
  generalize hn : machineMeasure v s = n
  induction n using Nat.strongRecOn generalizing k v s with
  | _ n ih =>
    rcases run_progress o k v s with ⟨_, hh⟩ | ⟨k', v', s', hg⟩
    · exact halt hh
    · exact goto hg (ih _ (hn ▸ hg.measure) k' v' s' rfl)

theorem parseChars_error {o : ParseOptions} {cs : List Char} {bad : Bool} {e : PErr} :
    parseChars o cs bad = .error e ↔
      run o [] none { rest := cs, bad := bad, pos := 0, cm := #[] } = .error e := by
  unfold parseChars
  cases run o [] none { rest := cs, bad := bad, pos := 0, cm := #[] } with
  | error e' => exact ⟨fun h => Except.error.inj h ▸ rfl, fun h => Except.error.inj h ▸ rfl⟩
  | ok r => exact ⟨nofun, nofun⟩

theorem parseChars_ok {o : ParseOptions} {cs : List Char} {bad : Bool} {r : JValue × List CMEntry} :
    parseChars o cs bad = .ok r ↔
      ∃ v s, run o [] none { rest := cs, bad := bad, pos := 0, cm := #[] } = .ok (v, s) ∧
        r = (v, s.cm.toList) := by
  unfold parseChars
  cases run o [] none { rest := cs, bad := bad, pos := 0, cm := #[] } with
  | error e => exact ⟨nofun, fun ⟨_, _, h, _⟩ => nomatch h⟩
  | ok p => exact ⟨fun h => ⟨p.1, p.2, rfl, (Except.ok.inj h).symm⟩, fun ⟨_, _, h, hr⟩ => by cases h; rw [hr]⟩

end JsonVerif
