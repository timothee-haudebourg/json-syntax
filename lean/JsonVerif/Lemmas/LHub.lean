import JsonVerif.Lemmas.MachineRD
import JsonVerif.Lemmas.GramSound
import JsonVerif.Lemmas.LGramComplete
/-!
# The parser under any option record decides the grammar with that record's strings

Theorem B (`machine_eq_rd`) carries soundness and completeness of the recursive-descent reference
(`Len.rdDocument_sound`, `Len.rdDocument_complete`) over to `parseChars`; uniqueness of the content
follows because the parser is a function. Last, the bridge to RFC 8259: `LDoc` at the strict record
is `GDoc`.
-/
namespace JsonVerif

theorem parse_sound_o (o : ParseOptions) {cs : List Char} {v : JValue} {cm : List CMEntry}
    (h : parseChars o cs false = .ok (v, cm)) : LDoc o cs v := by
  obtain ⟨_, s', hr, he⟩ := parseChars_ok.1 h
  cases he
  rw [machine_eq_rd] at hr
  exact Len.rdDocument_sound hr

theorem parse_complete_o (o : ParseOptions) {cs : List Char} {v : JValue} (h : LDoc o cs v) :
    ∃ cm, parseChars o cs false = .ok (v, cm) := by
  obtain ⟨s', hs'⟩ := Len.rdDocument_complete h { rest := cs, bad := false, pos := 0, cm := #[] } rfl rfl
    (2 * cs.length + 1) (Nat.le_refl _)   -- the fuel at which `machine_eq_rd` runs the reference
  refine ⟨s'.cm.toList, ?_⟩
  unfold parseChars
  rw [machine_eq_rd]
  simp only [hs']

theorem accepts_iff_o (o : ParseOptions) (cs : List Char) (v : JValue) :
    (∃ cm, parseChars o cs false = .ok (v, cm)) ↔ LDoc o cs v :=
  ⟨fun ⟨_, h⟩ => parse_sound_o o h, parse_complete_o o⟩

/-- not by an argument on the grammar: both contents are what the (deterministic) parser returns -/
theorem ldoc_unique (o : ParseOptions) {cs : List Char} {v v' : JValue} (h : LDoc o cs v) (h' : LDoc o cs v') :
    v = v' := by
  obtain ⟨cm, hc⟩ := parse_complete_o o h
  obtain ⟨cm', hc'⟩ := parse_complete_o o h'
  rw [hc] at hc'
  cases hc'; rfl

theorem ldoc_strict (cs : List Char) (v : JValue) : LDoc ⟨false, false⟩ cs v ↔ GDoc cs v :=
  ⟨fun ⟨w1, t, w2, e, h1, hv, h2⟩ => ⟨w1, t, w2, e, h1, hv.strict, h2⟩,
    fun ⟨w1, t, w2, e, h1, hv, h2⟩ => ⟨w1, t, w2, e, h1, hv.lenient _, h2⟩⟩

theorem gdoc_ldoc (o : ParseOptions) {cs : List Char} {v : JValue} (h : GDoc cs v) : LDoc o cs v :=
  let ⟨w1, t, w2, e, h1, hv, h2⟩ := h
  ⟨w1, t, w2, e, h1, hv.lenient o, h2⟩

end JsonVerif
