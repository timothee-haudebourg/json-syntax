import JsonVerif.Lemmas.Step
/-! The machine needs at most `2·|input| + 2` loop iterations (C03: total, linear, single pass). -/
namespace JsonVerif

/-- One iteration of the budgeted loop. Where a complete value meets the frame that awaits it, the
    loop takes the `some v` arm of that frame in the same iteration, as `run` does, and `Goto` counts
    that arm as an iteration of its own: so the fuel left is `n`, or `n + 1` in that case. -/
theorem runF_goto {o k v s k' v' s'} (h : Goto o k v s k' v' s') (n : Nat) :
    ∃ m, n ≤ m ∧ runF o (n + 1) k v s = runF o m k' v' s' := by
  cases h with
  | @frag k ctx s f s' hk hf =>
    cases k with
    | nil =>
      cases hk
      refine ⟨n, Nat.le_refl n, ?_⟩
      rw [runF]; simp only [hf]
      cases f <;> rfl
    | cons it k =>
      cases it <;> cases hk
      all_goals cases f with
        | value v => exact ⟨n + 1, Nat.le_succ n, by rw [runF]; simp only [hf]; rfl⟩
        | _ => exact ⟨n, Nat.le_refl n, by rw [runF]; simp only [hf]; rfl⟩
  | item => exact ⟨n, Nat.le_refl n, by rw [runF]⟩
  | entry h => exact ⟨n, Nat.le_refl n, by rw [runF]; simp only [h]⟩
  | arr h =>
    refine ⟨n, Nat.le_refl n, ?_⟩
    rw [runF]; simp only [h]
    rename_i c; cases c <;> rfl
  | obj h =>
    refine ⟨n, Nat.le_refl n, ?_⟩
    rw [runF]; simp only [h]
    rename_i c; cases c <;> rfl

theorem runF_halt {o k v s r} (h : Halt o k v s r) (n : Nat) : runF o (n + 1) k v s = some r := by
  cases h with
  | finish =>
    rw [runF]; unfold finish
    cases skipWs _ with
    | error e => rfl
    | ok s1 => simp only; cases s1.rest <;> rfl
  | @frag k ctx s e hk hf =>
    cases k with
    | nil => cases hk; rw [runF]; simp only [hf]
    | cons it k => cases it <;> cases hk <;> (rw [runF]; simp only [hf])
  | entry h => rw [runF]; simp only [h]
  | arr h => rw [runF]; simp only [h]
  | obj h => rw [runF]; simp only [h]

theorem runF_eq_run {o : ParseOptions} {stack : List StackItem} {value : Option JValue} {s : PS} :
    ∀ n, machineMeasure value s < n → runF o n stack value s = some (run o stack value s) := by
  induction stack, value, s using run_induct o with
  | halt hh =>
    intro n hn
    obtain ⟨_, rfl⟩ := Nat.exists_eq_succ_of_ne_zero (Nat.ne_of_gt (Nat.zero_lt_of_lt hn))
    rw [runF_halt hh, run_halt hh]
  | goto hg ih =>
    intro n hn
    obtain ⟨n, rfl⟩ := Nat.exists_eq_succ_of_ne_zero (Nat.ne_of_gt (Nat.zero_lt_of_lt hn))
    obtain ⟨m, hm, e⟩ := runF_goto hg n
    rw [e, run_goto hg]
    exact ih m (by have := hg.measure; omega)

/-- `parseChars` through the budgeted loop: `run` is by well-founded recursion, which the kernel does
    not evaluate; `runF` is structural, and the examples of Props/ are decided through
    `parseCharsF_eq`. -/
def parseCharsF (o : ParseOptions) (cs : List Char) (bad : Bool) : Except PErr (JValue × List CMEntry) :=
  match runF o (2 * cs.length + 2) [] none { rest := cs, bad := bad, pos := 0, cm := #[] } with
  | some (.ok (v, s)) => .ok (v, s.cm.toList)
  | some (.error e) => .error e
  | none => .error .panic

theorem parseCharsF_eq (o : ParseOptions) (cs : List Char) (bad : Bool) :
    parseCharsF o cs bad = parseChars o cs bad := by
  unfold parseCharsF parseChars
  rw [runF_eq_run _ (by simp [machineMeasure])]
  cases run o [] none { rest := cs, bad := bad, pos := 0, cm := #[] } with
  | error e => rfl
  | ok r => rfl

def errOf {α : Type} : Except PErr α → Option PErr
  | .error e => some e
  | .ok _ => none

def isOk {α : Type} : Except PErr α → Bool
  | .ok _ => true
  | .error _ => false

end JsonVerif
