import JsonVerif.Lemmas.ErrAt
import JsonVerif.Lemmas.CodeUnit
/-!
# Surrogate errors blame exactly the escape(s) at fault (last clause of C07)

`EscAt l₀ p₀ s e cu`: the input `l₀` (starting at byte offset `p₀`) contains an escape `\uXXXX`
writing the code unit `cu`, and `[s, e)` is exactly its `uXXXX` part (the reported spans start at
the `u`). Every surrogate error carries the code unit(s) written by the escape(s) its span covers;
for `InvalidLowSurrogate` the high-surrogate escape it also carries is the one directly before.
-/
namespace JsonVerif

/-- the span starts one byte after the backslash and is five bytes long -/
def EscAt (l₀ : List Char) (p₀ s e cu : Nat) : Prop :=
  ∃ pre a b c d post, l₀ = pre ++ '\\' :: 'u' :: a :: b :: c :: d :: post ∧ hexCp a b c d = some cu ∧
    s = p₀ + utf8Len pre + 1 ∧ e = s + 5

/-- the span of a surrogate error is the `uXXXX` of the escape at fault; for `invalidLow` the high
    surrogate it also carries was written by the escape directly before: six bytes (`uXXXX\\`) separate
    the two `u`s, so that escape's span is `[s - 6, s - 1)` -/
def ErrIn (l₀ : List Char) (p₀ : Nat) : PErr → Prop
  | .missingLow s e h => EscAt l₀ p₀ s e h
  | .invalidLow s e h cp => EscAt l₀ p₀ s e cp ∧ 6 ≤ s ∧ EscAt l₀ p₀ (s - 6) (s - 1) h
  | .invalidCodePoint s e cp => EscAt l₀ p₀ s e cp
  | _ => True

/-- not one of the three surrogate errors (lemmas `X_ns`: `X` raises none of them) -/
def NotSurr : PErr → Prop
  | .missingLow _ _ _ => False
  | .invalidLow _ _ _ _ => False
  | .invalidCodePoint _ _ _ => False
  | _ => True

theorem errIn_of_notSurr {l₀ : List Char} {p₀ : Nat} {e : PErr} (h : NotSurr e) : ErrIn l₀ p₀ e := by
  cases e with
  | missingLow | invalidLow | invalidCodePoint => exact h.elim
  | _ => trivial

theorem EscAt.lift {l₀ p₀ l p s e cu} (h : AdvL l₀ p₀ l p) (he : EscAt l p s e cu) : EscAt l₀ p₀ s e cu := by
  obtain ⟨w0, e0, q0⟩ := h
  obtain ⟨pre, a, b, c, d, post, hl, hc, hs, hee⟩ := he
  exact ⟨w0 ++ pre, a, b, c, d, post, by rw [e0, hl, List.append_assoc], hc, by rw [hs, q0, utf8Len_append, Nat.add_assoc p₀], hee⟩

theorem EscAt.len {l₀ p₀ s e cu} (h : EscAt l₀ p₀ s e cu) : e = s + 5 := by
  obtain ⟨_, _, _, _, _, _, _, _, _, he⟩ := h
  exact he

theorem ErrIn.lift {l₀ p₀ l p e} (h : AdvL l₀ p₀ l p) (he : ErrIn l p e) : ErrIn l₀ p₀ e := by
  cases e with
  | missingLow s e h' => exact EscAt.lift h he
  | invalidLow s e h' cp => exact ⟨EscAt.lift h he.1, he.2.1, EscAt.lift h he.2.2⟩
  | invalidCodePoint s e cp => exact EscAt.lift h he
  | _ => trivial

def ErrInS (s : PS) (e : PErr) : Prop := ErrIn s.rest s.pos e

theorem ErrInS.lift {s s' : PS} {e : PErr} (h : Adv s s') (he : ErrInS s' e) : ErrInS s e :=
  ErrIn.lift h.1 he

theorem eofErrAt_ns (bad : Bool) (pos : Nat) : NotSurr (eofErrAt bad pos) := by
  unfold eofErrAt; split <;> trivial

/-- the pending high surrogate was written by the escape that ends where the scanner stands -/
def HighAt (l₀ : List Char) (p₀ pos : Nat) (high : Option (Nat × Nat)) : Prop :=
  ∀ ph h, high = some (ph, h) → isHigh h = true ∧ EscAt l₀ p₀ ph pos h

theorem HighAt.none (l₀ : List Char) (p₀ pos : Nat) : HighAt l₀ p₀ pos none := by
  intro ph h hh; cases hh

theorem Reads.unit_esc {w r : List Char} {cp pos : Nat} {l₀ : List Char} {p₀ : Nat}
    (hr : Reads w (.unit cp)) (hadv : AdvL l₀ p₀ (w ++ r) pos) :
    EscAt l₀ p₀ (pos + 1) (pos + utf8Len w) cp := by
  cases hr with
  | u a b c d _ hcp =>
    obtain ⟨w0, e0, q0⟩ := hadv
    -- `\` and `u` take one byte each, the four hex digits four
    have h6 : utf8Len ['\\', 'u', a, b, c, d] = 1 + (1 + 4) :=
      congrArg (fun n => 1 + (1 + n)) (hexCp_sizes hcp)
    exact ⟨w0, a, b, c, d, r, e0, hcp, by rw [q0, Nat.add_assoc], by rw [h6]⟩

theorem strStep_in {o : ParseOptions} {bad : Bool} {acc : List Char} {high : Option (Nat × Nat)}
    {l : List Char} {pos : Nat} {l₀ : List Char} {p₀ : Nat}
    (hh : HighAt l₀ p₀ pos high) (hadv : AdvL l₀ p₀ l pos) :
    StepSpec (HighAt l₀ p₀) (ErrIn l₀ p₀) (strStep o bad acc high l pos) := by
  rcases strStep_cases o bad acc high l pos with ⟨w, _, e, hr, rfl, hs⟩ | ⟨w, t, _, rfl, hs⟩ <;> rw [hs]
  · cases he : onElem o high pos (pos + utf8Len w) e with
    | out cs hi fin =>
      cases fin with
      | true => trivial
      | false =>
        intro ph h hhi
        subst hhi
        obtain ⟨h1, rfl, rfl⟩ := onElem_high he
        exact ⟨h1, hr.unit_esc hadv⟩
    | err x =>
      cases onElem_err he with
      | missingLow ph hv _ h1 => exact (hh ph hv h1).2
      | invalidLow ph hv cp h1 =>
        -- the pending high was written by the escape that ends here: its `u` is five bytes back
        have hat := (hh ph hv h1).2
        have hpos := hat.len
        subst hpos
        -- `hat` is about `[ph, ph + 5)`; the goal writes that span `[ph + 5 + 1 - 6, ph + 5 + 1 - 1)`
        exact ⟨hr.unit_esc hadv, by omega, hat⟩
      | invalidPair ph hv cp h1 hl hc =>
        obtain ⟨_, hch⟩ := ofCp_pair_some (hh ph hv h1).1 hl
        rw [hc] at hch; cases hch
      | invalidUnit cp => exact hr.unit_esc hadv
  · cases t with
    | nil => exact errIn_of_notSurr (eofErrAt_ns _ _)
    | cons c t => trivial

theorem strScan_in {o : ParseOptions} {bad : Bool} {l : List Char} {pos : Nat} {e : PErr}
    (h : strScan o bad l pos = .error e) : ErrIn l pos e :=
  strLoopAux_stepSpec strStep_in trivial (HighAt.none _ _ _) (AdvL.refl _ _) (strScan_error.1 h)

theorem skipWs_ns {s : PS} {e : PErr} (h : skipWs s = .error e) : NotSurr e := by
  obtain ⟨_, _, rfl⟩ := skipWs_error.1 h
  trivial

theorem numScan_ns {ctx : Ctx} {bad : Bool} {l : List Char} {pos : Nat} {e : PErr}
    (h : numScan ctx bad l pos = .error e) : NotSurr e := by
  rcases numScan_error_shape h with ⟨_, _, _, _, _, rfl⟩ | ⟨_, rfl⟩ | rfl <;> trivial

end JsonVerif
