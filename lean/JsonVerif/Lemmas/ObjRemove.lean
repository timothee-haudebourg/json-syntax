import JsonVerif.Lemmas.ObjOps
/-!
# Renumbering the index: `remove_at` (and the shift of `push_front`, Lemmas/ObjFront.lean)

`su index` / `sd index` are what `shift_up` / `shift_down` do to one position. `su index` is
increasing and skips exactly `index`, so the positions other than `index` are the positions in the
entries without that one, moved along it (`posMask_ne`). `IndexMap::remove` takes the position out
of the index (mask: every position but that one); `shift_down` then renumbers the index as `eraseIdx`
renumbers the entries.
-/
namespace JsonVerif
open Obj

variable {S : Nat → Bool} {es : List (Key × JValue)} {bs : List Bucket} {k : Key} {j : Nat}

/-- `shift_up` / `shift_down` on one position -/
def su (index i : Nat) : Nat := if i ≥ index then i + 1 else i
def sd (index i : Nat) : Nat := if i > index then i - 1 else i

theorem sd_su (index i : Nat) : sd index (su index i) = i := by
  unfold sd su
  by_cases h : i ≥ index
  · rw [if_pos h, if_pos (Nat.lt_succ_of_le h)]; rfl
  · rw [if_neg h, if_neg fun h' => h (Nat.le_of_lt h')]

theorem su_lt_su {index a b : Nat} (h : a < b) : su index a < su index b := by
  unfold su
  split <;> split <;> omega

theorem su_image (index j : Nat) : j ≠ index ↔ ∃ i, su index i = j := by
  unfold su
  constructor
  · intro h
    rcases Nat.lt_or_gt_of_ne h with h | h
    · exact ⟨j, if_neg (Nat.not_le_of_lt h)⟩
    · exact ⟨j - 1, (if_pos (Nat.le_sub_one_of_lt h)).trans (by omega)⟩
  · rintro ⟨i, hi⟩
    split at hi <;> omega

theorem Bucket.shiftUp_all (b : Bucket) (index : Nat) :
    (b.shiftUp index).all = b.all.map (su index) := rfl

theorem Bucket.shiftDown_all (b : Bucket) (index : Nat) :
    (b.shiftDown index).all = b.all.map (sd index) := rfl

theorem keyAt_eraseIdx (es : List (Key × JValue)) (index j : Nat) :
    keyAt es (su index j) = keyAt (es.eraseIdx index) j := by
  unfold keyAt su
  rw [List.getElem?_eraseIdx]
  by_cases h : j < index
  · rw [if_pos h, if_neg (Nat.not_le_of_lt h)]
  · rw [if_neg h, if_pos (Nat.le_of_not_lt h)]

theorem posMask_ne (es : List (Key × JValue)) (index : Nat) (k : Key) :
    posMask (· != index) k es = (posOf k (es.eraseIdx index)).map (su index) :=
  posMask_image (fun _ _ => su_lt_su) (keyAt_eraseIdx es index)
    (fun j => bne_iff_ne.trans (su_image index j)) k

theorem posOf_eraseIdx (es : List (Key × JValue)) (index : Nat) (k : Key) :
    posOf k (es.eraseIdx index) = (posMask (· != index) k es).map (sd index) := by
  rw [posMask_ne, List.map_map]
  simp [Function.comp_def, sd_su]

/-- `Indexes::remove` erases the index from the whole position list; it refuses (`none`) exactly
    when nothing else would be left -/
theorem Bucket.remove_all (b : Bucket) (j : Nat) :
    match b.remove j with
    | some b' => b'.gkey = b.gkey ∧ b'.all = b.all.erase j
    | none => b.all = [j] := by
  unfold Bucket.remove Bucket.all
  by_cases h : b.rep = j
  · rw [if_pos h, h]; cases b.other <;> simp
  · rw [if_neg h]; simp [h]

theorem posMask_erase (S : Nat → Bool) (k : Key) (es : List (Key × JValue)) (j : Nat) :
    (posMask S k es).erase j = posMask (fun i => i != j && S i) k es := by
  rw [List.Nodup.erase_eq_filter ((posMask_sorted S k es).imp Nat.ne_of_lt), posMask, List.filter_filter]
  rfl

theorem indexRemove_inv (h : InvMask S es bs) (hk : keyAt es j = some k) :
    ∃ bs', indexRemove es bs j = some bs' ∧ InvMask (fun i => i != j && S i) es bs' := by
  have hother : ∀ k', k' ≠ k → (posMask S k' es).erase j = posMask S k' es := fun k' e =>
    List.erase_of_not_mem fun hm => e (keyAt_inj (mem_posMask.mp hm).1 hk)
  unfold indexRemove
  simp only [hk]
  rcases findBucket_inv h k with ⟨b, hfb, _, _, _⟩ | ⟨hfb, hn⟩
  · rw [hfb]
    refine ⟨_, rfl, h.filterMap (fun c hc => ?_) fun k' hk' hn => ?_⟩
    · rw [h.test_eq hc, ← posMask_erase]
      by_cases e : c.gkey = k
      · rw [if_pos (beq_iff_eq.mpr e), ← h.exact c hc]
        have := c.remove_all j
        revert this
        cases c.remove j with
        | none => intro this; simp [this]
        | some c' => exact id
      · rw [if_neg (mt beq_iff_eq.mp e), hother _ e]
        exact ⟨rfl, h.exact c hc⟩
    · rw [← posMask_erase, hn] at hk'
      exact hk' rfl
  · rw [hfb]
    refine ⟨bs, rfl, h.of_posMask_eq fun k' => ?_⟩
    rw [← posMask_erase]
    by_cases e : k' = k
    · rw [e, hn]
      rfl
    · exact hother k' e

theorem indexShiftDown_inv (h : InvMask (· != j) es bs) :
    InvMask (fun _ => true) (es.eraseIdx j) (indexShiftDown bs j) := by
  refine h.map (fun b hb => ⟨rfl, ?_⟩) fun k hk hn => ?_
  · rw [b.shiftDown_all, h.exact b hb, posMask_true, posOf_eraseIdx]
  · rw [posMask_true, posOf_eraseIdx, hn] at hk; exact hk rfl

theorem removeAt_inv {o : Obj} (h : Inv o) (index : Nat) :
    ∃ o', o.removeAt index = some (o', o.entries[index]?) ∧ Inv o' ∧
      o'.entries = o.entries.eraseIdx index := by
  unfold removeAt
  split
  · rename_i hlt
    obtain ⟨bs', hr, h1⟩ := indexRemove_inv h (keyAt_of_lt hlt)
    rw [hr]
    exact ⟨_, rfl, indexShiftDown_inv (h1.congr fun i _ => Bool.and_true _), rfl⟩
  · rename_i hge
    exact ⟨o, by rw [List.getElem?_eq_none (by omega)], h,
      by rw [List.eraseIdx_of_length_le (by omega)]⟩

end JsonVerif
