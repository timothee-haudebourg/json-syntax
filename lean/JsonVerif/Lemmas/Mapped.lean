import JsonVerif.Spec.Preorder
/-!
# Code-map offsets navigate correctly (C11)

The statements about offsets assume the volume column of the code map is the one of a well-formed
code map (conclusion of C05): the volumes `volsX …` of the container's subtree sit in
`cm.map (·.volume)` at the container's pre-order index (`At`). `get_fragment` and the traversal
use no code map: they are the pre-order itself (`getFragment_nth`, `traverseFuel_eq`).
-/
namespace JsonVerif
open JValue

mutual
theorem preV_length : ∀ v : JValue, (preV v).length = v.frags
  | .null => rfl
  | .bool _ => rfl
  | .number _ => rfl
  | .string _ => rfl
  | .array xs => by rw [preV, frags, List.length_cons, poL_length xs, Nat.add_comm]
  | .object es => by rw [preV, frags, List.length_cons, poM_length es, Nat.add_comm]
theorem poL_length : ∀ xs : List JValue, (poL xs).length = fragsL xs
  | [] => rfl
  | x :: xs => by rw [poL, fragsL, List.length_append, preV_length x, poL_length xs]
theorem poM_length : ∀ es : List (Key × JValue), (poM es).length = fragsM es
  | [] => rfl
  | (k, v) :: es => by
    rw [poM, fragsM, List.length_append, List.length_cons, List.length_cons, preV_length v,
      poM_length es]; omega
end

mutual
theorem volsV_length : ∀ v : JValue, (volsV v).length = v.frags
  | .null => rfl
  | .bool _ => rfl
  | .number _ => rfl
  | .string _ => rfl
  | .array xs => by rw [volsV, frags, List.length_cons, volsL_length xs, Nat.add_comm]
  | .object es => by rw [volsV, frags, List.length_cons, volsM_length es, Nat.add_comm]
theorem volsL_length : ∀ xs : List JValue, (volsL xs).length = fragsL xs
  | [] => rfl
  | x :: xs => by rw [volsL, fragsL, List.length_append, volsV_length x, volsL_length xs]
theorem volsM_length : ∀ es : List (Key × JValue), (volsM es).length = fragsM es
  | [] => rfl
  | (k, v) :: es => by
    rw [volsM, fragsM, List.length_append, List.length_cons, List.length_cons, volsV_length v,
      volsM_length es]; omega
end

theorem volsV_head (v : JValue) : ∃ t, volsV v = v.frags :: t := by
  cases v <;> exact ⟨_, rfl⟩

def volumes (cm : List CMEntry) : List Nat := cm.map (·.volume)

theorem volAt_eq (cm : List CMEntry) (i : Nat) : volAt cm i = (volumes cm)[i]? :=
  List.getElem?_map.symm

/-- `seg` sits in `l` at offset `o`. The lemmas take the container's own slice of the volume column
    in this form; the end results take `l = pre ++ seg ++ post`, from which `At.of_eq` supplies it. -/
def At {α} (l : List α) (o : Nat) (seg : List α) : Prop :=
  ∃ pre post, l = pre ++ seg ++ post ∧ pre.length = o

section
variable {α} {l : List α} {o : Nat}

theorem At.of_eq {pre seg post : List α} (h : l = pre ++ seg ++ post) : At l pre.length seg :=
  ⟨pre, post, h, rfl⟩

theorem At.zero {seg : List α} (h : l = seg) : At l 0 seg :=
  ⟨[], [], by rw [h, List.append_nil]; rfl, rfl⟩

theorem At.head {x t} (h : At l o (x :: t)) : l[o]? = some x := by
  obtain ⟨pre, post, rfl, rfl⟩ := h; simp

theorem At.left {a b} (h : At l o (a ++ b)) : At l o a := by
  obtain ⟨pre, post, rfl, rfl⟩ := h; exact ⟨pre, b ++ post, by simp, rfl⟩

theorem At.right {a b} (h : At l o (a ++ b)) : At l (o + a.length) b := by
  obtain ⟨pre, post, rfl, rfl⟩ := h; exact ⟨pre ++ a, post, by simp, by simp⟩

theorem At.tail {x t} (h : At l o (x :: t)) : At l (o + 1) t :=
  At.right (a := [x]) h

end

/-- Where a subtree's volumes sit, the first is its fragment count, and what follows them sits that
    many places on. -/
theorem At.vols {l : List Nat} {o x rest} (h : At l o (volsV x ++ rest)) :
    l[o]? = some x.frags ∧ At l (o + x.frags) rest := by
  obtain ⟨t, ht⟩ := volsV_head x
  exact ⟨(ht ▸ h).head, volsV_length x ▸ h.right⟩

/-- expected offsets of the items of an array whose first item sits at `o` -/
def offsetsL : Nat → List JValue → List Nat
  | _, [] => []
  | o, x :: xs => o :: offsetsL (o + x.frags) xs

theorem arrayMappedFrom_eq (cm : List CMEntry) :
    ∀ (xs : List JValue) (o : Nat), At (volumes cm) o (volsL xs) →
      arrayMappedFrom cm o xs = some (offsetsL o xs)
  | [], _, _ => rfl
  | x :: xs, o, h => by
    obtain ⟨hv, hr⟩ := At.vols h
    rw [arrayMappedFrom, volAt_eq, hv]
    exact congrArg (Option.map _) (arrayMappedFrom_eq cm xs _ hr)

def offsetsM : Nat → List (Key × JValue) → List (Nat × Nat × Nat)
  | _, [] => []
  | o, (_, v) :: es => (o, o + 1, o + 2) :: offsetsM (o + 2 + v.frags) es

theorem objectMappedFrom_eq (cm : List CMEntry) :
    ∀ (es : List (Key × JValue)) (o : Nat), At (volumes cm) o (volsM es) →
      objectMappedFrom cm o es = some (offsetsM o es)
  | [], _, _ => rfl
  | (k, v) :: es, o, h => by
    obtain ⟨hv, hr⟩ := At.vols (o := o + 2) h.tail.tail
    rw [objectMappedFrom, volAt_eq, hv]
    exact congrArg (Option.map _) (objectMappedFrom_eq cm es _ hr)

theorem poL_offsets : ∀ (xs : List JValue) (T : List Frag) (o : Nat), At T o (poL xs) →
    (offsetsL o xs).map (fun i => T[i]?) = xs.map (fun x => some (Frag.value x))
  | [], _, _, _ => rfl
  | x :: xs, T, o, h => by
    have h0 : T[o]? = some (Frag.value x) := by
      cases x <;> exact At.head h
    have := poL_offsets xs T _ (preV_length x ▸ h.right)
    simp only [offsetsL, List.map_cons, h0, this]

/-- Indexing that reports how far past the end an index lies: the result shape of `get_fragment`. -/
def nthFrag (l : List Frag) (i : Nat) : Frag ⊕ Nat :=
  if h : i < l.length then .inl l[i] else .inr (i - l.length)

theorem nthFrag_cons_succ (x : Frag) (l : List Frag) (i : Nat) : nthFrag (x :: l) (i + 1) = nthFrag l i := by
  simp [nthFrag]

theorem nthFrag_append (a b : List Frag) (i : Nat) :
    nthFrag (a ++ b) i = match nthFrag a i with | .inl f => .inl f | .inr j => nthFrag b j := by
  induction a generalizing i with
  | nil => rfl
  | cons x a ih =>
    cases i with
    | zero => rfl
    | succ i => simp only [List.cons_append, nthFrag_cons_succ, ih]

mutual
theorem getFragment_nth : ∀ (v : JValue) (i : Nat), getFragment v i = nthFrag (preV v) i
  | v, 0 => by cases v <;> rfl
  | .null, i + 1 => rfl
  | .bool _, i + 1 => rfl
  | .number _, i + 1 => rfl
  | .string _, i + 1 => rfl
  | .array xs, i + 1 => by rw [getFragment, preV, nthFrag_cons_succ, getFragmentL_nth]
  | .object es, i + 1 => by rw [getFragment, preV, nthFrag_cons_succ, getFragmentM_nth]
theorem getFragmentL_nth : ∀ (xs : List JValue) (i : Nat), getFragmentL xs i = nthFrag (poL xs) i
  | [], i => rfl
  | x :: xs, i => by
    rw [getFragmentL, poL, nthFrag_append, getFragment_nth x i]
    cases nthFrag (preV x) i <;> simp only [getFragmentL_nth xs]
theorem getFragmentM_nth : ∀ (es : List (Key × JValue)) (i : Nat), getFragmentM es i = nthFrag (poM es) i
  | [], i => rfl
  | (k, x) :: es, 0 => rfl
  | (k, x) :: es, 1 => rfl
  | (k, x) :: es, j + 2 => by
    rw [getFragmentM, poM, List.cons_append, List.cons_append, nthFrag_cons_succ, nthFrag_cons_succ,
      nthFrag_append, getFragment_nth x j]
    cases nthFrag (preV x) j <;> simp only [getFragmentM_nth es]
end

theorem getFragmentL_eq : ∀ (xs : List JValue) (i : Nat),
    getFragmentL xs i = if h : i < (poL xs).length then .inl ((poL xs)[i]) else .inr (i - (poL xs).length) :=
  getFragmentL_nth

theorem getFragmentM_eq : ∀ (es : List (Key × JValue)) (i : Nat),
    getFragmentM es i = if h : i < (poM es).length then .inl ((poM es)[i]) else .inr (i - (poM es).length) :=
  getFragmentM_nth

def preF : Frag → List Frag
  | .value v => preV v
  | .entry k v => .entry k v :: .key k :: preV v
  | .key k => [.key k]

theorem poL_eq (xs : List JValue) : poL xs = (xs.map preV).flatten := by
  induction xs with
  | nil => rfl
  | cons x xs ih => rw [poL, ih]; rfl

theorem poM_eq (es : List (Key × JValue)) :
    poM es = (es.map (fun e => preF (.entry e.1 e.2))).flatten := by
  induction es with
  | nil => rfl
  | cons e es ih => rw [poM, ih]; rfl

theorem preF_eq (f : Frag) : preF f = f :: (f.subs.map preF).flatten := by
  cases f with
  | value v =>
    cases v with
    | array xs => simp only [preF, preV, Frag.subs, poL_eq, List.map_map]; rfl
    | object es => simp only [preF, preV, Frag.subs, poM_eq, List.map_map]; rfl
    | _ => rfl
  | entry k v => simp [preF, Frag.subs]
  | key k => rfl

/-- The stack holds the roots of the subtrees still to be yielded; fuel for all their fragments is
    enough. -/
theorem traverseFuel_eq : ∀ (n : Nat) (st : List Frag), (st.map preF).flatten.length ≤ n →
    traverseFuel n st = (st.map preF).flatten
  | _, [], _ => by cases ‹Nat› <;> rfl
  | 0, f :: st, h => by simp [preF_eq f] at h
  | n + 1, f :: st, h => by
    have ih := traverseFuel_eq n (f.subs ++ st)
    simp only [List.map_cons, List.flatten_cons, preF_eq f, List.map_append, List.flatten_append,
      List.cons_append, List.length_cons, Nat.add_le_add_iff_right] at h ih ⊢
    rw [traverseFuel, ih h]

end JsonVerif
