import JsonVerif.Model.Basic
/-!
# Induction over `JValue` with the hypothesis for every member

`JValue` is nested through `List`, so a fact about all values is usually proved as a mutual triple
`f` / `fL` / `fM` (value, item list, entry list). Where the list companions are not wanted for their
own sake, `JValue.ind` does with one induction: prove the list fact from the hypothesis for the members
(`fooL_of : (∀ x ∈ xs, P x) → …`, by `induction xs`), then the value by `JValue.ind`, then the unconditional
list versions in a line (`cmp_refl` in term form, `cmp_eq` in tactic form, Lemmas/OrderLaws.lean).
-/
namespace JsonVerif

theorem JValue.ind {P : JValue → Prop} (null : P .null) (bool : ∀ b, P (.bool b))
    (number : ∀ n, P (.number n)) (string : ∀ s, P (.string s))
    (array : ∀ xs, (∀ x ∈ xs, P x) → P (.array xs))
    (object : ∀ es, (∀ e ∈ es, P e.2) → P (.object es)) : ∀ v, P v :=
  @JValue.rec P (fun xs => ∀ x ∈ xs, P x) (fun es => ∀ e ∈ es, P e.2) (fun e => P e.2)
    null bool number string array object
    (fun _ h => nomatch h) (fun _ _ hx hxs => List.forall_mem_cons.mpr ⟨hx, hxs⟩)
    (fun _ h => nomatch h) (fun _ _ he hes => List.forall_mem_cons.mpr ⟨he, hes⟩)
    (fun _ _ h => h)

end JsonVerif
