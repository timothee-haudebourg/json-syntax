/-!
# Lexicographic comparison, once

`cmpChars`, `cmpNats`, `cmpL`, `cmpM` all satisfy the four equations `IsLex c` for some `c`, and the
entry orders are `pairCmp`s. Each of the four laws (`c a a = .eq`; `.eq` only on equal arguments;
swapping the arguments swaps the answer; `.lt` is transitive) passes from `c` to such a function.
The hypotheses on `c` are asked only for the members of the first list, so that the lemmas apply
inside an induction over a nested type; only `trans` asks "`.eq` only on equal arguments" of `c`
for all arguments, which is why `cmp_eq` is proved in full before `cmp_trans`.
-/
namespace JsonVerif

/-- `a₁ < a₂ < a₃` for a lexicographic combination `oᵢ.then pᵢ` of comparison results -/
theorem then_trans {o₁ o₂ o₃ p₁ p₂ p₃ : Ordering} (h₁ : o₁.then p₁ = .lt) (h₂ : o₂.then p₂ = .lt)
    (ho : o₁ = .lt → o₂ = .lt → o₃ = .lt) (hl : o₁ = .eq → o₃ = o₂) (hr : o₂ = .eq → o₃ = o₁)
    (hp : p₁ = .lt → p₂ = .lt → p₃ = .lt) : o₃.then p₃ = .lt := by
  rw [Ordering.then_eq_lt] at *
  rcases h₁ with a | ⟨a, a'⟩ <;> rcases h₂ with b | ⟨b, b'⟩
  · exact .inl (ho a b)
  · exact .inl (hr b ▸ a)
  · exact .inl (hl a ▸ b)
  · exact .inr ⟨hl a ▸ b, hp a' b'⟩

/-! `c a b ≠ .gt` is the `≤` of a comparison `c`; it is a total order when `c` satisfies the laws. -/
section le
variable {α : Type} {c : α → α → Ordering}

theorem notGt_total (hsw : ∀ a b, c b a = (c a b).swap) (a b : α) : c a b ≠ .gt ∨ c b a ≠ .gt := by
  rw [hsw a b]; cases c a b <;> simp

theorem notGt_trans (heq : ∀ {a b}, c a b = .eq → a = b)
    (htr : ∀ {a b d}, c a b = .lt → c b d = .lt → c a d = .lt) {a b d : α}
    (h1 : c a b ≠ .gt) (h2 : c b d ≠ .gt) : c a d ≠ .gt := by
  cases h : c a b with
  | gt => exact absurd h h1
  | eq => exact heq h ▸ h2
  | lt =>
    cases h' : c b d with
    | gt => exact absurd h' h2
    | eq => rw [← heq h', h]; simp
    | lt => rw [htr h h']; simp

theorem notGt_antisymm (heq : ∀ {a b}, c a b = .eq → a = b) (hsw : ∀ a b, c b a = (c a b).swap)
    {a b : α} (h1 : c a b ≠ .gt) (h2 : c b a ≠ .gt) : a = b := by
  rw [hsw a b] at h2
  cases h : c a b with
  | gt => exact absurd h h1
  | eq => exact heq h
  | lt => simp [h] at h2

end le

def pairCmp {α β} (c : α → α → Ordering) (d : β → β → Ordering) (a b : α × β) : Ordering :=
  (c a.1 b.1).then (d a.2 b.2)

variable {α β : Type} {c : α → α → Ordering} {d : β → β → Ordering}

theorem pairCmp_refl {a : α × β} (h1 : c a.1 a.1 = .eq) (h2 : d a.2 a.2 = .eq) :
    pairCmp c d a a = .eq := by
  rw [pairCmp, h1, h2]; rfl

theorem pairCmp_eq {a b : α × β} (h1 : c a.1 b.1 = .eq → a.1 = b.1)
    (h2 : d a.2 b.2 = .eq → a.2 = b.2) (h : pairCmp c d a b = .eq) : a = b :=
  have ⟨e1, e2⟩ := Ordering.then_eq_eq.mp h
  Prod.ext (h1 e1) (h2 e2)

theorem pairCmp_swap {a b : α × β} (h1 : c b.1 a.1 = (c a.1 b.1).swap)
    (h2 : d b.2 a.2 = (d a.2 b.2).swap) : pairCmp c d b a = (pairCmp c d a b).swap := by
  rw [pairCmp, pairCmp, Ordering.swap_then, h1, h2]

theorem pairCmp_trans {a b e : α × β} (heq : ∀ x y, c x y = .eq → x = y)
    (hc : ∀ {x y z}, c x y = .lt → c y z = .lt → c x z = .lt)
    (hd : d a.2 b.2 = .lt → d b.2 e.2 = .lt → d a.2 e.2 = .lt)
    (h1 : pairCmp c d a b = .lt) (h2 : pairCmp c d b e = .lt) : pairCmp c d a e = .lt :=
  then_trans h1 h2 hc (fun h => heq _ _ h ▸ rfl) (fun h => heq _ _ h ▸ rfl) hd

structure IsLex (c : α → α → Ordering) (f : List α → List α → Ordering) : Prop where
  nil_nil : f [] [] = .eq
  nil_cons : ∀ b bs, f [] (b :: bs) = .lt
  cons_nil : ∀ a as, f (a :: as) [] = .gt
  cons_cons : ∀ a as b bs, f (a :: as) (b :: bs) = (c a b).then (f as bs)

namespace IsLex
variable {f : List α → List α → Ordering} (hf : IsLex c f)
include hf

theorem refl {as : List α} (h : ∀ a ∈ as, c a a = .eq) : f as as = .eq := by
  induction as with
  | nil => exact hf.nil_nil
  | cons a as ih =>
    have ⟨h1, h2⟩ := List.forall_mem_cons.mp h
    rw [hf.cons_cons, h1, ih h2]; rfl

theorem eq {as bs : List α} (hc : ∀ a ∈ as, ∀ b, c a b = .eq → a = b) (h : f as bs = .eq) :
    as = bs := by
  induction as generalizing bs with
  | nil => cases bs with
    | nil => rfl
    | cons => cases hf.nil_cons .. ▸ h
  | cons a as ih => cases bs with
    | nil => cases hf.cons_nil .. ▸ h
    | cons b bs =>
      have ⟨h1, h2⟩ := List.forall_mem_cons.mp hc
      have ⟨e1, e2⟩ := Ordering.then_eq_eq.mp (hf.cons_cons .. ▸ h)
      rw [h1 b e1, ih h2 e2]

theorem swap {as : List α} (bs : List α) (h : ∀ a ∈ as, ∀ b, c b a = (c a b).swap) :
    f bs as = (f as bs).swap := by
  induction as generalizing bs with
  | nil => cases bs with
    | nil => rw [hf.nil_nil]; rfl
    | cons => rw [hf.nil_cons, hf.cons_nil]; rfl
  | cons a as ih => cases bs with
    | nil => rw [hf.nil_cons, hf.cons_nil]; rfl
    | cons b bs =>
      have ⟨h1, h2⟩ := List.forall_mem_cons.mp h
      rw [hf.cons_cons, hf.cons_cons, Ordering.swap_then, h1 b, ih bs h2]

theorem trans (heq : ∀ a b, c a b = .eq → a = b) {as bs cs : List α}
    (hc : ∀ a ∈ as, ∀ b d, c a b = .lt → c b d = .lt → c a d = .lt)
    (h1 : f as bs = .lt) (h2 : f bs cs = .lt) : f as cs = .lt := by
  induction as generalizing bs cs with
  | nil => cases cs with
    | nil => cases bs with
      | nil => cases hf.nil_nil ▸ h2
      | cons => cases hf.cons_nil .. ▸ h2
    | cons => exact hf.nil_cons ..
  | cons a as ih => cases bs with
    | nil => cases hf.cons_nil .. ▸ h1
    | cons b bs => cases cs with
      | nil => cases hf.cons_nil .. ▸ h2
      | cons d ds =>
        have ⟨hc1, hc2⟩ := List.forall_mem_cons.mp hc
        rw [hf.cons_cons] at *
        exact then_trans h1 h2 (hc1 b d) (fun e => heq a b e ▸ rfl) (fun e => heq b d e ▸ rfl)
          (ih hc2)

end IsLex

end JsonVerif
