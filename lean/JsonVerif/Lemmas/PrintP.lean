import JsonVerif.Spec.Print
import JsonVerif.Lemmas.Escape
/-!
# Theorem P: the two-phase printer equals the documented layout

`sz b t` is the size of a text `t` that may (`b`) or may not go on one line; it turns `&&` / `++`
into `Size.add`, so the accumulator of `preL` / `preM` is followed by algebra and not by cases.
`pre` computes `sz (inl o v) (oneLine o v)` for every container in pre-order (width lemma); `emit`,
consuming exactly those sizes, writes `specPrint` (emission lemma, stated with an arbitrary suffix of
remaining sizes so that the induction goes through) and never indexes out of bounds.
-/
namespace JsonVerif

def sz (b : Bool) (t : List Char) : Size := if b then .width t.length else .expanded

theorem add_width (a b : Nat) : (Size.width a).add (.width b) = .width (a + b) := rfl

@[simp] theorem Size.expanded_add (s : Size) : Size.expanded.add s = .expanded := by cases s <;> rfl
@[simp] theorem Size.add_expanded (s : Size) : s.add Size.expanded = .expanded := by cases s <;> rfl

theorem Size.add_zero (a : Size) : a.add (.width 0) = a := by cases a <;> rfl

theorem Size.add_assoc (a b c : Size) : (a.add b).add c = a.add (b.add c) := by
  cases a <;> cases b <;> cases c <;> simp [Size.add, Nat.add_assoc]

theorem sz_add (a b : Bool) (s t : List Char) : (sz a s).add (sz b t) = sz (a && b) (s ++ t) := by
  cases a <;> cases b <;> simp [sz, Size.add]

/-- `t'` is `t` behind a prefix of fixed width `a` (brackets, a key): the prefix goes into the text -/
theorem width_add_sz {a : Nat} {b : Bool} {t t' : List Char} (h : t'.length = a + t.length) :
    (Size.width a).add (sz b t) = sz b t' := by
  cases b <;> simp [sz, Size.add, h]

theorem applyLimit_eq (lim : Option Limit) (len w : Nat) :
    applyLimit lim len (.width w) = if withinLimit lim len w then .width w else .expanded := by
  rcases lim with _ | _ | _ | _ | _ <;>
    simp only [applyLimit, withinLimit, Bool.not_eq_true', decide_eq_false_iff_not, ite_not,
      if_true, Bool.false_eq_true, if_false]

theorem applyLimit_sz (lim : Option Limit) (len : Nat) (b : Bool) (t : List Char) :
    applyLimit lim len (sz b t) = sz (b && withinLimit lim len t.length) t := by
  cases b
  · rfl
  · exact applyLimit_eq ..

theorem sepAcc {i a : Nat} {acc : Size} {b : Bool} {s t : List Char} (h : s.length = a) :
    (if i > 0 then acc.add (.width a) else acc).add (sz b t) =
      acc.add (sz b ((if i > 0 then s else []) ++ t)) := by
  split
  · rw [Size.add_assoc, width_add_sz]; simp [h]
  · rfl

@[simp] theorem spaces_length (n : Nat) : (spaces n).length = n := List.length_replicate ..

theorem stringLiteral_length (s : List Char) : (stringLiteral s).length = printedStringSize s := by
  unfold stringLiteral printedStringSize
  simp [List.length_flatMap, funext escapeChar_length]; omega

theorem keyText_length (o : PrintOptions) (k : List Char) :
    (keyText o k).length = printedStringSize k + 1 + o.objectBeforeColon + o.objectAfterColon := by
  simp [keyText, stringLiteral_length]; omega

theorem commaSep_length (a b : Nat) : (spaces a ++ ',' :: spaces b).length = 1 + a + b := by
  simp; omega

/-- the one-line form of a non-empty container is its body and, around it, what `preL` / `preM`
    start from -/
theorem bracket_length (l r : Char) (n m : Nat) (t : List Char) :
    (l :: spaces n ++ t ++ spaces m ++ [r]).length = 2 + n + m + t.length := by
  simp; omega

mutual
theorem pre_fst (o : PrintOptions) : ∀ v, (pre o v).1 = sz (inl o v) (oneLine o v) := by
  intro v
  cases v with
  | null | number _ => rfl
  | bool b => cases b <;> rfl
  | string s => exact congrArg Size.width (stringLiteral_length s).symm
  | array xs =>
    have ih := preL_fst_add o xs
    simp only [pre, inl]
    rw [ih, ← applyLimit_sz]
    cases xs with
    | nil => simp [sz, oneLine, inlL]; congr 2; omega
    | cons x xs => exact congrArg (applyLimit _ _) (width_add_sz (bracket_length '[' ']' ..))
  | object es =>
    have ih := preM_fst_add o es
    simp only [pre, inl]
    rw [ih, ← applyLimit_sz]
    cases es with
    | nil => simp [sz, oneLine, inlM]; congr 2; omega
    | cons e es => exact congrArg (applyLimit _ _) (width_add_sz (bracket_length '{' '}' ..))
theorem preL_fst_add (o : PrintOptions) :
    ∀ xs i acc, (preL o xs i acc).1 = acc.add (sz (inlL o xs) (oneLineL o xs i))
  | [], _, acc => (Size.add_zero acc).symm
  | x :: xs, i, acc => by
    simp only [preL, inlL, oneLineL, List.append_assoc]
    rw [preL_fst_add o xs, pre_fst o x, Size.add_assoc, sz_add]
    exact sepAcc (commaSep_length ..)
theorem preM_fst_add (o : PrintOptions) :
    ∀ es i acc, (preM o es i acc).1 = acc.add (sz (inlM o es) (oneLineM o es i))
  | [], _, acc => (Size.add_zero acc).symm
  | (k, x) :: es, i, acc => by
    simp only [preM, inlM, oneLineM, List.append_assoc]
    rw [preM_fst_add o es, pre_fst o x, Size.add_assoc, sz_add, Size.add_assoc,
      width_add_sz (List.length_append.trans (congrArg (· + _) (keyText_length o k)))]
    exact sepAcc (commaSep_length ..)
end

theorem preL_fst (o : PrintOptions) : ∀ xs i a, (preL o xs i (.width a)).1 =
    if inlL o xs then .width (a + (oneLineL o xs i).length) else .expanded := by
  intro xs i a
  rw [preL_fst_add, sz]
  split <;> rfl

theorem preM_fst (o : PrintOptions) : ∀ es i a, (preM o es i (.width a)).1 =
    if inlM o es then .width (a + (oneLineM o es i).length) else .expanded := by
  intro es i a
  rw [preM_fst_add, sz]
  split <;> rfl

theorem pre_snd_arr (o : PrintOptions) (xs : List JValue) :
    (pre o (.array xs)).2 = sz (inl o (.array xs)) (oneLine o (.array xs)) ::
      (preL o xs 0 (.width (2 + o.arrayBegin + o.arrayEnd))).2 := by
  rw [← pre_fst]; rfl

theorem pre_snd_obj (o : PrintOptions) (es : List (List Char × JValue)) :
    (pre o (.object es)).2 = sz (inl o (.object es)) (oneLine o (.object es)) ::
      (preM o es 0 (.width (2 + o.objectBegin + o.objectEnd))).2 := by
  rw [← pre_fst]; rfl

theorem preL_snd (o : PrintOptions) : ∀ xs i a, (preL o xs i a).2 = xs.flatMap fun x => (pre o x).2
  | [], _, _ => rfl
  | x :: xs, i, a => by simp only [preL, List.flatMap_cons, preL_snd o xs]

theorem preM_snd (o : PrintOptions) : ∀ es i a, (preM o es i a).2 = es.flatMap fun e => (pre o e.2).2
  | [], _, _ => rfl
  | (k, x) :: es, i, a => by simp only [preM, List.flatMap_cons, preM_snd o es]

theorem preL_snd_acc (o : PrintOptions) : ∀ xs i a b, (preL o xs i a).2 = (preL o xs i b).2 :=
  fun xs i a b => (preL_snd o xs i a).trans (preL_snd o xs i b).symm

theorem preM_snd_acc (o : PrintOptions) : ∀ es i a b, (preM o es i a).2 = (preM o es i b).2 :=
  fun es i a b => (preM_snd o es i a).trans (preM_snd o es i b).symm

theorem spec_inl (o : PrintOptions) (ind : Nat) : ∀ v, inl o v = true → specPrint o ind v = oneLine o v
  | .null, _ | .bool _, _ | .number _, _ | .string _, _ => rfl
  | .array xs, h | .object xs, h => by simp [specPrint, h]

mutual
theorem emit_eq (o : PrintOptions) :
    ∀ v ind rest, emit o ind v ((pre o v).2 ++ rest) = some (specPrint o ind v, rest) := by
  intro v ind rest
  cases v with
  | null | bool _ | number _ | string _ => rfl
  | array xs =>
    have ihE := emitL_eq o true xs nofun
    have ihI := emitL_eq o false xs
    rw [pre_snd_arr]
    cases xs with
    | nil => cases hi : inl o (.array []) <;> simp [emit, sz, hi, specPrint, oneLine, preL]
    | cons x xs =>
      cases hi : inl o (.array (x :: xs))
      · simp [emit, sz, ihE, specPrint, hi]
      · simp [emit, sz, ihI fun _ => (Bool.and_eq_true_iff.1 hi).1, specPrint, hi, oneLine]
  | object es =>
    have ihE := emitM_eq o true es nofun
    have ihI := emitM_eq o false es
    rw [pre_snd_obj]
    cases es with
    | nil => cases hi : inl o (.object []) <;> simp [emit, sz, hi, specPrint, oneLine, preM]
    | cons e es =>
      cases hi : inl o (.object (e :: es))
      · simp [emit, sz, ihE, specPrint, hi]
      · simp [emit, sz, ihI fun _ => (Bool.and_eq_true_iff.1 hi).1, specPrint, hi, oneLine]
/-- The items, expanded (`e`) or on one line: both modes in one induction. Each item is printed by
    `emit`, that is as `specPrint`; on one line that is its `oneLine` form only if the item goes on
    one line (`spec_inl`), hence the hypothesis. -/
theorem emitL_eq (o : PrintOptions) (e : Bool) : ∀ xs, (e = false → inlL o xs = true) →
    ∀ i a ind rest, emitL o ind e xs i ((preL o xs i a).2 ++ rest) =
      some (if e then specL o ind xs i else oneLineL o xs i, rest) := by
  intro xs h i a ind rest
  cases xs with
  | nil => cases e <;> rfl
  | cons x xs =>
    have ihx := emit_eq o x (ind + 1)
    have ihl := emitL_eq o e xs
    simp only [inlL, Bool.and_eq_true] at h
    simp only [preL, emitL, List.append_assoc, ihx, ihl fun he => (h he).2]
    cases e
    · simp [oneLineL, arrSep, spec_inl o (ind+1) x (h rfl).1]
    · simp [specL]
theorem emitM_eq (o : PrintOptions) (e : Bool) : ∀ es, (e = false → inlM o es = true) →
    ∀ i a ind rest, emitM o ind e es i ((preM o es i a).2 ++ rest) =
      some (if e then specM o ind es i else oneLineM o es i, rest) := by
  intro es h i a ind rest
  cases es with
  | nil => cases e <;> rfl
  | cons kx es =>
    obtain ⟨k, x⟩ := kx
    have ihx := emit_eq o x (ind + 1)
    have ihl := emitM_eq o e es
    simp only [inlM, Bool.and_eq_true] at h
    simp only [preM, emitM, List.append_assoc, ihx, ihl fun he => (h he).2]
    cases e
    · simp [oneLineM, objSep, keyText, spec_inl o (ind+1) x (h rfl).1]
    · simp [specM, keyText]
end

theorem emitL_exp (o : PrintOptions) : ∀ xs i a ind rest,
    emitL o ind true xs i ((preL o xs i a).2 ++ rest) = some (specL o ind xs i, rest) :=
  fun xs => emitL_eq o true xs nofun
theorem emitL_inl (o : PrintOptions) : ∀ xs i a ind rest, inlL o xs = true →
    emitL o ind false xs i ((preL o xs i a).2 ++ rest) = some (oneLineL o xs i, rest) :=
  fun xs i a ind rest h => emitL_eq o false xs (fun _ => h) i a ind rest
theorem emitM_exp (o : PrintOptions) : ∀ es i a ind rest,
    emitM o ind true es i ((preM o es i a).2 ++ rest) = some (specM o ind es i, rest) :=
  fun es => emitM_eq o true es nofun
theorem emitM_inl (o : PrintOptions) : ∀ es i a ind rest, inlM o es = true →
    emitM o ind false es i ((preM o es i a).2 ++ rest) = some (oneLineM o es i, rest) :=
  fun es i a ind rest h => emitM_eq o false es (fun _ => h) i a ind rest

theorem printer_eq_spec (o : PrintOptions) (v : JValue) (ind : Nat) :
    printWith o ind v = some (specPrint o ind v) := by
  rw [printWith, ← List.append_nil (pre o v).2, emit_eq]

end JsonVerif
