import JsonVerif.Spec.Spans
import JsonVerif.Lemmas.GramSound
import JsonVerif.Lemmas.MachineRD
import JsonVerif.Lemmas.Mapped
/-!
# The code map built by the parser is the one the grammar induces (C05)

`rd_closed`: a run of the recursive-descent reference appends exactly the entries `SValue` assigns
to the text it reads; `Closed` (Lemmas/Leaf.lean) says how the entry reserved for a container is
patched when its bracket closes. `rd_span` is `rd_closed` with `Closed` unfolded, `parse_codemap`
its transport to the machine by `machine_eq_rd`.
-/
namespace JsonVerif

/-- a scalar or an empty container is one code-map entry spanning its text -/
theorem svalue_leaf {t : List Char} {v : JValue} (hg : GValue t v) (hl : IsLeaf v) (b : Nat) :
    SValue b t v [⟨b, b + utf8Len t, 1⟩] := by
  cases hg with
  | null => exact .null b
  | true => exact .true b
  | false => exact .false b
  | number n hn => exact .number b _ hn
  | string t cs hs => exact .string b t cs hs
  | arrEmpty w hw => simpa [Nat.add_assoc] using SValue.arrEmpty b w hw
  | objEmpty w hw => simpa [Nat.add_assoc] using SValue.objEmpty b w hw
  | arr t vs hi => cases hi <;> cases hl
  | obj t es hm => cases hm <;> cases hl

theorem set_app_left {α} {L R : List α} {i : Nat} {x : α} (h : i < L.length) :
    (L ++ R).set i x = L.set i x ++ R := by
  simp [h]

theorem sitems_prepend {b : Nat} {t : List Char} {vs : List JValue} {cm : List CMEntry} {w0 : List Char}
    (h : SItems (b + utf8Len w0) t vs cm) (hw : IsWsL w0) : SItems b (w0 ++ t) vs cm := by
  cases h with
  | one _ w1 t w2 v cm h1 hv h2 =>
    simpa using SItems.one b (w0 ++ w1) t w2 v cm (hw.append h1) (by simpa [Nat.add_assoc] using hv) h2
  | cons _ w1 t w2 ts v vs cm1 cm2 h1 hv h2 hts =>
    simpa using SItems.cons b (w0 ++ w1) t w2 ts v vs cm1 cm2 (hw.append h1)
      (by simpa [Nat.add_assoc] using hv) h2 (by simpa [Nat.add_assoc] using hts)

/-- closing an object entry after its value: the entry placeholder gets its `stop` and volume -/
theorem entry_closed {s1 s2 : PS} {e ke : Nat} {T cmv : List CMEntry} {ee : CMEntry}
    (hend : s1.endFragment e = .ok s2) (h1 : s1.cm.toList = T ++ [ee, ⟨ee.start, ke, 1⟩] ++ cmv)
    (hTl : T.length = e) :
    s2.cm.toList = T ++ ⟨ee.start, s1.pos, 2 + cmv.length⟩ :: ⟨ee.start, ke, 1⟩ :: cmv := by
  have hcl := endFragment_closed hend
  -- regrouped so that the placeholder `ee` is the last entry of the old map: `prepend`, then `last`
  rw [h1, ← hTl, show T ++ [ee, ⟨ee.start, ke, 1⟩] ++ cmv = T ++ [ee] ++ (⟨ee.start, ke, 1⟩ :: cmv) by simp]
    at hcl
  have := (hcl.prepend (by simp)).last
  simpa [show 1 + (cmv.length + 1) = 2 + cmv.length by omega] using this

/-- what every position identity of `rd_closed` is closed with: the length of a text is the sum over
    its pieces, and the six structural characters are one byte each -/
theorem utf8Len_pieces :
    (∀ a b, utf8Len (a ++ b) = utf8Len a + utf8Len b) ∧ (∀ c a, utf8Len (c :: a) = c.utf8Size + utf8Len a) ∧
      utf8Len [] = 0 ∧ ':'.utf8Size = 1 ∧ ','.utf8Size = 1 ∧ '['.utf8Size = 1 ∧ ']'.utf8Size = 1 ∧
      '{'.utf8Size = 1 ∧ '}'.utf8Size = 1 :=
  ⟨utf8Len_append, fun _ _ => rfl, rfl, rfl, rfl, rfl, rfl, rfl, rfl⟩

/-- The entries a run appends are the ones `SValue` assigns to the text it reads; the entry of the
    container that `rdItems` / `rdMembers` closes is said by `Closed`. In the members clause `T` is the
    code map before the current member: the caller (`parseFragment` or `contObject`) pushed behind it
    the member's placeholder `ee` and its key entry, ending at byte `ke`, so the member's index is
    `e = T.length`, and the object's own entry `i < e` lies inside `T` (what `Closed.prepend` needs). -/
theorem rd_closed : ∀ n,
    (∀ ctx s v s', rdValue so n ctx s = .ok (v, s') →
      ∃ w t cm, s.rest = w ++ t ++ s'.rest ∧ IsWsL w ∧ SValue (s.pos + utf8Len w) t v cm ∧
        s'.cm.toList = s.cm.toList ++ cm ∧ s'.pos = s.pos + utf8Len w + utf8Len t) ∧
    (∀ acc i s v s', rdItems so n acc i s = .ok (v, s') → i < s.cm.size →
      ∃ t vs cmI, s.rest = t ++ ']' :: s'.rest ∧ SItems s.pos t vs cmI ∧ v = .array (acc ++ vs) ∧
        s'.pos = s.pos + utf8Len t + 1 ∧ Closed i s.cm.toList s'.cm.toList s'.pos cmI) ∧
    (∀ acc i key e s v s', rdMembers so n acc i key e s = .ok (v, s') →
      ∀ (T : List CMEntry) (ee : CMEntry) (ke : Nat), s.cm.toList = T ++ [ee, ⟨ee.start, ke, 1⟩] →
      T.length = e → i < e →
      ∃ tl es cmT, s.rest = tl ++ '}' :: s'.rest ∧ STail ee.start ke s.pos tl key es cmT ∧
        v = .object (acc ++ es) ∧ s'.pos = s.pos + utf8Len tl + 1 ∧
        Closed i T s'.cm.toList s'.pos cmT) := by
  apply rd_ind
  case leaf =>
    intro ctx s v s' hf
    obtain ⟨w, t, hr, hw, hv, hl, hcm, hp⟩ := Len.parseFragment_span hf
    exact ⟨w, t, _, hr, hw, svalue_leaf hv.strict hl _, hcm, hp⟩
  case arr =>
    intro ctx s i s1 v s' hf ihI
    obtain ⟨hi, w, w0, hr, hws, hws0, hcm1, hp1⟩ := Len.parseFragment_span hf
    have hsz : s1.cm.size = s.cm.size + 1 := by
      have := congrArg List.length hcm1; simpa using this
    obtain ⟨t, vs, cmI, ht, hI, rfl, hp', hcl⟩ := ihI (by omega)
    rw [hcm1, hi, ← Array.length_toList] at hcl
    have hpe : s'.pos = s.pos + utf8Len w + 1 + utf8Len (w0 ++ t) + 1 := by
      rw [hp', hp1]; simp only [utf8Len_pieces]; ac_rfl
    have hpos : s'.pos = s.pos + utf8Len w + utf8Len ('[' :: ((w0 ++ t) ++ [']'])) := by
      rw [hpe]; simp only [utf8Len_pieces]; ac_rfl
    refine ⟨w, '[' :: ((w0 ++ t) ++ [']']), ⟨s.pos + utf8Len w, s'.pos, 1 + cmI.length⟩ :: cmI, ?_, hws, ?_,
      hcl.last, hpos⟩
    · rw [hr, ht]; simp
    · rw [hp1] at hI
      rw [hpe]
      simpa using SValue.arr (s.pos + utf8Len w) (w0 ++ t) vs cmI (sitems_prepend hI hws0)
  case obj =>
    intro ctx s i key e s1 v s' hf ihM
    obtain ⟨hi, he, w, w0, k, w2, hr, hws, hws0, hgk, hws2, hcm1, hp1⟩ := Len.parseFragment_span hf
    -- the first member: `parseFragment` pushed the object's placeholder, then `ee` and the key entry
    obtain ⟨tl, es, cmT, ht, hT, rfl, hp', hcl⟩ := ihM
      (T := s.cm.toList ++ [⟨s.pos + utf8Len w, s.pos + utf8Len w, 0⟩])
      (ee := ⟨s.pos + utf8Len w + 1 + utf8Len w0, s.pos + utf8Len w + 1 + utf8Len w0, 0⟩)
      (ke := s.pos + utf8Len w + 1 + utf8Len w0 + utf8Len k)
      (by rw [hcm1]; simp) (by simp [he]) (by omega)
    rw [hi, ← Array.length_toList] at hcl
    have hpe : s'.pos = s.pos + utf8Len w + 1 + utf8Len (w0 ++ k ++ w2 ++ ':' :: tl) + 1 := by
      rw [hp', hp1]; simp only [utf8Len_pieces]; ac_rfl
    have hpos : s'.pos = s.pos + utf8Len w + utf8Len ('{' :: ((w0 ++ k ++ w2 ++ ':' :: tl) ++ ['}'])) := by
      rw [hpe]; simp only [utf8Len_pieces]; ac_rfl
    refine ⟨w, '{' :: ((w0 ++ k ++ w2 ++ ':' :: tl) ++ ['}']),
      ⟨s.pos + utf8Len w, s'.pos, 1 + cmT.length⟩ :: cmT, ?_, hws, ?_, hcl.last, hpos⟩
    · rw [hr, ht]; simp
    · rw [hp1] at hT
      rw [hpe]
      simpa using SValue.obj (s.pos + utf8Len w) w0 k w2 tl key es cmT hws0 hgk.strict hws2 hT
  case item =>
    rintro acc i s v1 s1 s2 v s' ⟨w1, t1, cm1, hr1, hws1, hS1, hcm1, hp1⟩ hc ihI hi
    have hsz1 : s1.cm.size = s.cm.size + cm1.length := by
      have := congrArg List.length hcm1; simpa using this
    obtain ⟨w2, hws2, hr2, hcm2, hp2⟩ := contArray_span hc
    obtain ⟨t', vs', cmI', ht', hI', rfl, hp', hcl⟩ := ihI (by rw [hcm2]; omega)
    rw [hcm2, hcm1] at hcl
    have hp2' : s.pos + utf8Len (w1 ++ t1 ++ w2) + 1 = s2.pos := by
      rw [hp2, hp1]; simp only [utf8Len_pieces]; ac_rfl
    have hpos : s'.pos = s.pos + utf8Len (w1 ++ t1 ++ w2 ++ ',' :: t') + 1 := by
      rw [hp', hp2, hp1]; simp only [utf8Len_pieces]; ac_rfl
    refine ⟨w1 ++ t1 ++ w2 ++ ',' :: t', _, _, ?_,
      .cons s.pos w1 t1 w2 t' v1 vs' cm1 cmI' hws1 hS1 hws2 (hp2' ▸ hI'), by simp, hpos,
      hcl.prepend (by simpa using hi)⟩
    rw [hr1, hr2, ht']; simp
  case last =>
    rintro acc i s v1 s1 s2 ⟨w1, t1, cm1, hr1, hws1, hS1, hcm1, hp1⟩ hc hi
    obtain ⟨w2, hws2, hr2, hp2, hcl⟩ := contArray_span hc
    rw [hcm1] at hcl
    have hpos : s2.pos = s.pos + utf8Len (w1 ++ t1 ++ w2) + 1 := by
      rw [hp2, hp1]; simp only [utf8Len_pieces]; ac_rfl
    refine ⟨w1 ++ t1 ++ w2, _, _, ?_, .one s.pos w1 t1 w2 v1 cm1 hws1 hS1 hws2, rfl, hpos,
      by simpa using hcl.prepend (by simpa using hi)⟩
    rw [hr1, hr2]; simp
  case entry =>
    rintro acc i key e s v1 s1 s2 key' e' s3 v s' ⟨w3, t1, cmv, hr1, hws3, hS1, hcm1, hp1⟩ hend hc ihM
      T ee ke hT hTl hie
    have hp := endFragment_rest hend
    have hcm2' := entry_closed hend (by rw [hcm1, hT]) hTl
    rw [hp1] at hcm2'
    obtain ⟨he', w4, w1', k', w2', hr2, hws4, hws1', hgk', hws2', hcm3, hp3⟩ := Len.contObject_span hc
    -- the next member: its `T` is the whole map `s2.cm` (this member closed, `hcm2'`), behind which
    -- `contObject` pushed `ee` and the key entry
    obtain ⟨tl', es', cmT', ht', hT', rfl, hp', hcl⟩ := ihM (T := s2.cm.toList)
      (ee := ⟨s2.pos + utf8Len w4 + 1 + utf8Len w1', s2.pos + utf8Len w4 + 1 + utf8Len w1', 0⟩)
      (ke := s2.pos + utf8Len w4 + 1 + utf8Len w1' + utf8Len k')
      (by rw [hcm3]) (by rw [he', Array.length_toList])
      (by rw [he', ← Array.length_toList, hcm2']; simp only [List.length_append, List.length_cons]; omega)
    rw [hcm2'] at hcl
    have e1 : s.pos + utf8Len (w3 ++ t1 ++ w4) + 1 + utf8Len w1' = s2.pos + utf8Len w4 + 1 + utf8Len w1' := by
      rw [hp.2.1, hp1]; simp only [utf8Len_pieces]; ac_rfl
    have hpos : s'.pos = s.pos + utf8Len (w3 ++ t1 ++ w4 ++ ',' :: (w1' ++ k' ++ w2' ++ ':' :: tl')) + 1 := by
      rw [hp', hp3, hp.2.1, hp1]; simp only [utf8Len_pieces]; ac_rfl
    refine ⟨w3 ++ t1 ++ w4 ++ ',' :: (w1' ++ k' ++ w2' ++ ':' :: tl'), _, _, ?_,
      .cons ee.start ke s.pos w3 t1 w4 w1' k' w2' tl' key key' v1 es' cmv cmT' hws3 hS1 hws4
      hws1' hgk'.strict hws2' (by rw [e1, ← hp3]; exact hT'), by simp, hpos,
      by simpa using hcl.prepend (by omega)⟩
    rw [hr1, ← hp.1, hr2, ht']; simp
  case close =>
    rintro acc i key e s v1 s1 s2 s3 ⟨w3, t1, cmv, hr1, hws3, hS1, hcm1, hp1⟩ hend hc T ee ke hT hTl hie
    have hp := endFragment_rest hend
    have hcm2' := entry_closed hend (by rw [hcm1, hT]) hTl
    rw [hp1] at hcm2'
    obtain ⟨w4, hws4, hr2, hp3, hcl⟩ := Len.contObject_span hc
    rw [hcm2'] at hcl
    have hpos : s3.pos = s.pos + utf8Len (w3 ++ t1 ++ w4) + 1 := by
      rw [hp3, hp.2.1, hp1]; simp only [utf8Len_pieces]; ac_rfl
    refine ⟨w3 ++ t1 ++ w4, _, _, ?_, .one ee.start ke s.pos w3 t1 w4 key v1 cmv hws3 hS1 hws4, rfl, hpos,
      by simpa using hcl.prepend (by omega)⟩
    rw [hr1, ← hp.1, hr2]; simp

theorem rd_span : ∀ n,
    (∀ ctx s v s', rdValue so n ctx s = .ok (v, s') →
      ∃ w t cm, s.rest = w ++ t ++ s'.rest ∧ IsWsL w ∧ SValue (s.pos + utf8Len w) t v cm ∧
        s'.cm.toList = s.cm.toList ++ cm ∧ s'.pos = s.pos + utf8Len w + utf8Len t) ∧
    (∀ acc i s v s', rdItems so n acc i s = .ok (v, s') → i < s.cm.size →
      ∃ t vs cmI e, s.rest = t ++ ']' :: s'.rest ∧ SItems s.pos t vs cmI ∧ v = .array (acc ++ vs) ∧
        s'.pos = s.pos + utf8Len t + 1 ∧ s.cm.toList[i]? = some e ∧
        s'.cm.toList = (s.cm.toList ++ cmI).set i ⟨e.start, s'.pos, s.cm.size + cmI.length - i⟩) ∧
    (∀ acc i key e s v s', rdMembers so n acc i key e s = .ok (v, s') →
      ∀ (T : List CMEntry) (ee : CMEntry) (ke : Nat), s.cm.toList = T ++ [ee, ⟨ee.start, ke, 1⟩] →
      T.length = e → i < e →
      ∃ tl es cmT ei, s.rest = tl ++ '}' :: s'.rest ∧ STail ee.start ke s.pos tl key es cmT ∧
        v = .object (acc ++ es) ∧ s'.pos = s.pos + utf8Len tl + 1 ∧ T[i]? = some ei ∧
        s'.cm.toList = (T ++ cmT).set i ⟨ei.start, s'.pos, e + cmT.length - i⟩) := by
  intro n
  obtain ⟨hV, hI, hM⟩ := rd_closed n
  refine ⟨hV, fun acc i s v s' h hi => ?_, fun acc i key e s v s' h T ee ke hT hTl hie => ?_⟩
  · obtain ⟨t, vs, cmI, ht, hS, hv, hp, e, he, hcm⟩ := hI _ _ _ _ _ h hi
    exact ⟨t, vs, cmI, e, ht, hS, hv, hp, he, by simpa using hcm⟩
  · obtain ⟨tl, es, cmT, ht, hS, hv, hp, ei, hei, hcm⟩ := hM _ _ _ _ _ _ _ h T ee ke hT hTl hie
    exact ⟨tl, es, cmT, ei, ht, hS, hv, hp, hei, by rw [← hTl]; exact hcm⟩

theorem rdDocument_span {n : Nat} {s : PS} {v : JValue} {s' : PS}
    (h : rdDocument so n s = .ok (v, s')) (hp : s.pos = 0) (hc : s.cm = #[]) : SDoc s.rest v s'.cm.toList := by
  obtain ⟨s1, hv, h2, hnil⟩ := rdDocument_ok h
  obtain ⟨w, t, cm, hr, hws, hS, hcm, _⟩ := (rd_closed n).1 _ _ _ _ hv
  obtain ⟨w2, hr2, hws2, _, hc2⟩ := skipWs_span h2
  refine ⟨w, t, w2, by rw [hr, hr2, hnil]; simp, hws, ?_, hws2⟩
  rw [hc2, hcm, hc]
  simpa [hp] using hS

theorem parse_codemap {cs : List Char} {v : JValue} {cm : List CMEntry}
    (h : parseChars so cs false = .ok (v, cm)) : SDoc cs v cm := by
  obtain ⟨_, s', hr, he⟩ := parseChars_ok.1 h
  cases he
  rw [machine_eq_rd] at hr
  exact rdDocument_span hr rfl rfl

mutual
theorem SValue.erase : ∀ {b t v cm}, SValue b t v cm → GValue t v := by
  intro b t v cm h
  cases h with
  | null => exact .null
  | true => exact .true
  | false => exact .false
  | number _ n hn => exact .number _ hn
  | string _ t cs hs => exact .string _ cs hs
  | arrEmpty _ w hw => exact .arrEmpty w hw
  | arr _ t vs cm hi => exact .arr t vs (SItems.erase hi)
  | objEmpty _ w hw => exact .objEmpty w hw
  | obj _ w1 k w2 tl key es cm h1 hk h2 ht => exact .obj _ es (STail.erase ht w1 k w2 h1 hk h2)
theorem SItems.erase : ∀ {b t vs cm}, SItems b t vs cm → GItems t vs := by
  intro b t vs cm h
  cases h with
  | one _ w1 t w2 v cm h1 hv h2 => exact .one w1 t w2 v h1 (SValue.erase hv) h2
  | cons _ w1 t w2 ts v vs cm1 cm2 h1 hv h2 hts =>
    exact .cons w1 t w2 ts v vs h1 (SValue.erase hv) h2 (SItems.erase hts)
theorem STail.erase : ∀ {kb ke b tl key es cm}, STail kb ke b tl key es cm →
    ∀ w1 k w2, IsWsL w1 → GString k key → IsWsL w2 → GMembers (w1 ++ k ++ w2 ++ ':' :: tl) es := by
  intro kb ke b tl key es cm h w1 k w2 h1 hk h2
  cases h with
  | one _ _ _ w3 t w4 _ v cmv h3 hv h4 => exact .one w1 k w2 w3 t w4 key v h1 hk h2 h3 (SValue.erase hv) h4
  | cons _ _ _ w3 t w4 w1' k' w2' ts _ key' v es cmv cm' h3 hv h4 h1' hk' h2' hts =>
    exact .cons w1 k w2 w3 t w4 _ key v es h1 hk h2 h3 (SValue.erase hv) h4
      (STail.erase hts w1' k' w2' h1' hk' h2')
end

theorem SDoc.gdoc {cs : List Char} {v : JValue} {cm : List CMEntry} (h : SDoc cs v cm) : GDoc cs v := by
  obtain ⟨w1, t, w2, e, h1, hs, h2⟩ := h
  exact ⟨w1, t, w2, e, h1, hs.erase, h2⟩

theorem length_of_volumes {cm : List CMEntry} {l : List Nat} (h : volumes cm = l) :
    cm.length = l.length := by
  rw [← h, volumes, List.length_map]

mutual
theorem SValue.vols : ∀ {b t v cm}, SValue b t v cm → volumes cm = volsV v := by
  intro b t v cm h
  cases h with
  | arr _ t vs cm hi =>
    have ih := SItems.vols hi
    have hl : cm.length = JValue.fragsL vs := (length_of_volumes ih).trans (volsL_length vs)
    simp only [volumes, List.map_cons, volsV] at ih ⊢
    rw [ih, hl]
  | obj _ w1 k w2 tl key es cm h1 hk h2 ht =>
    have ih := STail.vols ht
    have hl : cm.length = JValue.fragsM es := (length_of_volumes ih).trans (volsM_length es)
    simp only [volumes, List.map_cons, volsV] at ih ⊢
    rw [ih, hl]
  | _ => rfl
theorem SItems.vols : ∀ {b t vs cm}, SItems b t vs cm → volumes cm = volsL vs := by
  intro b t vs cm h
  cases h with
  | one _ w1 t w2 v cm h1 hv h2 => simp [volsL, SValue.vols hv]
  | cons _ w1 t w2 ts v vs cm1 cm2 h1 hv h2 hts =>
    have a := SValue.vols hv
    have b := SItems.vols hts
    simp only [volumes, List.map_append, volsL] at a b ⊢
    rw [a, b]
theorem STail.vols : ∀ {kb ke b tl key es cm}, STail kb ke b tl key es cm → volumes cm = volsM es := by
  intro kb ke b tl key es cm h
  cases h with
  | one _ _ _ w3 t w4 _ v cmv h3 hv h4 =>
    have a := SValue.vols hv
    have hl : cmv.length = v.frags := (length_of_volumes a).trans (volsV_length v)
    simp only [volumes, List.map_cons, volsM, List.append_nil] at a ⊢
    rw [a, hl]
  | cons _ _ _ w3 t w4 w1' k' w2' ts _ key' v es cmv cm' h3 hv h4 h1' hk' h2' hts =>
    have a := SValue.vols hv
    have b := STail.vols hts
    have hl : cmv.length = v.frags := (length_of_volumes a).trans (volsV_length v)
    simp only [volumes, List.map_cons, List.map_append, volsM] at a b ⊢
    rw [a, b, hl]; simp
end

/-- the volume column of a parsed document's code map is the pre-order list of subtree sizes —
    exactly the hypothesis under which the navigation theorems of C11 are stated -/
theorem parse_volumes {cs : List Char} {v : JValue} {cm : List CMEntry}
    (h : parseChars so cs false = .ok (v, cm)) : volumes cm = volsV v := by
  obtain ⟨w1, t, w2, _, _, hs, _⟩ := parse_codemap h
  exact hs.vols

end JsonVerif
