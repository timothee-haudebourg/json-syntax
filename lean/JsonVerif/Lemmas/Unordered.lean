import JsonVerif.Model.Unordered
import JsonVerif.Spec.PermEq
/-!
# `unordered_eq` accepts only values equal up to permutation, and every value against itself (C15)

The converse, completeness of the greedy matching, is Lemmas/UnorderedComplete.lean.
-/
namespace JsonVerif

theorem ueqPick_some {f : JValue → Bool} {k : List Char} :
    ∀ {b b' : List (List Char × JValue)}, ueqPick f k b = some b' →
      ∃ b1 y b2, b = b1 ++ (k, y) :: b2 ∧ f y = true ∧ b' = b1 ++ b2
  | (l, y) :: b, b', h => by
    rw [ueqPick] at h
    split at h
    · rename_i hc
      rw [Bool.and_eq_true, beq_iff_eq] at hc
      cases h
      exact ⟨[], y, b, by rw [hc.1]; rfl, hc.2, rfl⟩
    · obtain ⟨b0, hp, rfl⟩ := Option.map_eq_some_iff.mp h
      obtain ⟨b1, y', b2, rfl, e2, rfl⟩ := ueqPick_some hp
      exact ⟨(l, y) :: b1, y', b2, rfl, e2, rfl⟩

mutual
theorem ueq_sound : ∀ (a b : JValue), ueq a b = true → PermEq a b
  -- on different constructors `ueq` is `false`: Lean refutes those cases from the hypothesis
  | .null, .null, _ => .null
  | .bool _, .bool _, h => by cases beq_iff_eq.mp h; exact .bool _
  | .number _, .number _, h => by cases beq_iff_eq.mp h; exact .number _
  | .string _, .string _, h => by cases beq_iff_eq.mp h; exact .string _
  | .array xs, .array ys, h => .array (ueqL_sound xs ys h)
  | .object es, .object fs, h =>
    have ⟨hl, hm⟩ := Bool.and_eq_true_iff.mp h
    .object (ueqM_sound es fs hm (beq_iff_eq.mp hl))
theorem ueqL_sound : ∀ (a b : List JValue), ueqL a b = true → PermEqL a b
  | [], [], _ => .nil
  | x :: xs, y :: ys, h =>
    have ⟨hx, hxs⟩ := Bool.and_eq_true_iff.mp h
    .cons (ueq_sound x y hx) (ueqL_sound xs ys hxs)
theorem ueqM_sound : ∀ (a b : List (List Char × JValue)), ueqM a b = true → a.length = b.length →
    PermEqM a b
  | [], [], _, _ => .nil
  | (k, x) :: a, b, h, hl => by
    rw [ueqM] at h
    split at h
    · cases h
    · rename_i b' hp
      obtain ⟨b1, y, b2, rfl, e2, rfl⟩ := ueqPick_some hp
      have hl' : a.length = (b1 ++ b2).length := by
        simp only [List.length_cons, List.length_append] at hl ⊢
        omega
      exact .cons (ueq_sound x y e2) (ueqM_sound a _ h hl')
end

mutual
theorem ueq_refl : ∀ a : JValue, ueq a a = true
  | .null => rfl
  | .bool _ => beq_self_eq_true _
  | .number _ => beq_self_eq_true _
  | .string _ => beq_self_eq_true _
  | .array xs => ueqL_refl xs
  | .object es => Bool.and_eq_true_iff.mpr ⟨beq_self_eq_true _, ueqM_refl es⟩
theorem ueqL_refl : ∀ a : List JValue, ueqL a a = true
  | [] => rfl
  | x :: xs => Bool.and_eq_true_iff.mpr ⟨ueq_refl x, ueqL_refl xs⟩
theorem ueqM_refl : ∀ a : List (List Char × JValue), ueqM a a = true
  | [] => rfl
  | (k, x) :: a => by
    rw [ueqM, ueqPick, beq_self_eq_true, ueq_refl x]
    exact ueqM_refl a
end

end JsonVerif
