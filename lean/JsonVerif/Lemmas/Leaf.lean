import JsonVerif.Lemmas.Adv
import JsonVerif.Lemmas.GramNum
/-!
# What the primitives of the lexical layer read, and what they do to the code map

A successful run read backwards, primitive by primitive, up to the four leaf lexers. `Closed` says
that the entry opened at an index of the code map has been closed (stop and volume patched in).
-/
namespace JsonVerif

@[simp] theorem utf8Size_colon : ':'.utf8Size = 1 := by decide
@[simp] theorem utf8Size_comma : ','.utf8Size = 1 := by decide
@[simp] theorem utf8Size_lbr : '['.utf8Size = 1 := by decide
@[simp] theorem utf8Size_rbr : ']'.utf8Size = 1 := by decide
@[simp] theorem utf8Size_lbc : '{'.utf8Size = 1 := by decide
@[simp] theorem utf8Size_rbc : '}'.utf8Size = 1 := by decide

theorem utf8Len_null : utf8Len ['n', 'u', 'l', 'l'] = 4 := by decide
theorem utf8Len_true : utf8Len ['t', 'r', 'u', 'e'] = 4 := by decide
theorem utf8Len_false : utf8Len ['f', 'a', 'l', 's', 'e'] = 5 := by decide

theorem IsWsL.nil : IsWsL [] := fun _ h => nomatch h
theorem IsWsL.cons {c : Char} {w : List Char} (hc : isWs c = true) (hw : IsWsL w) : IsWsL (c :: w) :=
  List.forall_mem_cons.2 ⟨hc, hw⟩
theorem IsWsL.append {a b : List Char} (ha : IsWsL a) (hb : IsWsL b) : IsWsL (a ++ b) :=
  fun x hx => (List.mem_append.mp hx).elim (ha x) (hb x)

theorem pos_of {s s' : PS} (ha : Adv s s') {w : List Char} (hr : s.rest = w ++ s'.rest) :
    s'.pos = s.pos + utf8Len w := by
  obtain ⟨⟨w', e, q⟩, _, _⟩ := ha
  have : w' = w := by
    rw [hr] at e
    exact (List.append_cancel_right e).symm
  rw [q, this]

theorem skipWsL_spec (l : List Char) (p : Nat) :
    ∃ w, l = w ++ (skipWsL l p).1 ∧ IsWsL w := by
  induction l generalizing p with
  | nil => exact ⟨[], rfl, IsWsL.nil⟩
  | cons c r ih =>
    simp only [skipWsL]
    split
    · rename_i hc
      obtain ⟨w, hw, hws⟩ := ih (p + c.utf8Size)
      exact ⟨c :: w, by rw [List.cons_append, ← hw], IsWsL.cons hc hws⟩
    · exact ⟨[], rfl, IsWsL.nil⟩

theorem skipWs_span {s s' : PS} (h : skipWs s = .ok s') :
    ∃ w, s.rest = w ++ s'.rest ∧ IsWsL w ∧ s'.pos = s.pos + utf8Len w ∧ s'.cm = s.cm := by
  obtain ⟨w, hw, hws⟩ : ∃ w, s.rest = w ++ s'.rest ∧ IsWsL w := by
    rw [(skipWs_ok.1 h).1]
    exact skipWsL_spec _ _
  exact ⟨w, hw, hws, pos_of (skipWs_adv h) hw, by rw [(skipWs_ok.1 h).1]⟩

theorem expectChar_spec {c : Char} {s s' : PS} (h : expectChar c s = .ok s') :
    s'.cm = s.cm ∧ s.rest = c :: s'.rest := by
  -- in program form, so that the lexer's equation applies
  have h := Lex.lift_ok.2 h
  rw [expectChar_eq] at h
  obtain ⟨d, r, hr, h0⟩ := Lex.peekC_ok.1 h
  rcases Lex.ite_eq.1 h0 with ⟨rfl, h1⟩ | ⟨_, h1⟩
  · cases (Lex.next_ok hr).1 h1
    exact ⟨rfl, hr⟩
  · cases h1

theorem expectChars_spec {cs : List Char} {s s' : PS} (h : expectChars cs s = .ok s') :
    s'.cm = s.cm ∧ s.rest = cs ++ s'.rest := by
  induction cs generalizing s with
  | nil =>
    cases h
    exact ⟨rfl, rfl⟩
  | cons c cs ih =>
    simp only [expectChars] at h
    split at h
    · cases h
    · rename_i s1 h1
      obtain ⟨a1, b1⟩ := expectChar_spec h1
      obtain ⟨a2, b2⟩ := ih h
      exact ⟨by rw [a2, a1], by rw [b1, b2]; rfl⟩

theorem reserve_cm (s : PS) : s.reserve.cm = s.cm.push ⟨s.pos, s.pos, 0⟩ := rfl

/-- the fragment opened at index `i` of the code map `L` has been closed at byte `p`, after the entries
    `cm` were appended: its `stop` is `p` and its volume everything from `i` on (`end_fragment`,
    src/parse/mod.rs: `entry.volume = entry_count - i`) -/
def Closed (i : Nat) (L L' : List CMEntry) (p : Nat) (cm : List CMEntry) : Prop :=
  ∃ e, L[i]? = some e ∧ L' = (L ++ cm).set i ⟨e.start, p, L.length + cm.length - i⟩

/-- entries appended before the closing count as appended by it, if the entry lies inside `L` -/
theorem Closed.prepend {i : Nat} {L L' cm1 cm2 : List CMEntry} {p : Nat} (hi : i < L.length)
    (h : Closed i (L ++ cm1) L' p cm2) : Closed i L L' p (cm1 ++ cm2) := by
  obtain ⟨e, he, h⟩ := h
  rw [List.getElem?_append_left hi] at he
  refine ⟨e, he, ?_⟩
  rw [h, List.append_assoc, List.length_append, List.length_append, Nat.add_assoc]

/-- the closed form when the entry is the last one of the old map: then everything appended is its
    subtree -/
theorem Closed.last {L L' cm : List CMEntry} {x : CMEntry} {p : Nat}
    (h : Closed L.length (L ++ [x]) L' p cm) : L' = L ++ ⟨x.start, p, 1 + cm.length⟩ :: cm := by
  obtain ⟨e, he, h⟩ := h
  have : e = x := by simpa using he.symm
  rw [h, this, List.append_assoc, List.singleton_append, List.set_append_right _ _ (Nat.le_refl _)]
  simp only [Nat.sub_self, List.set_cons_zero, List.length_append, List.length_cons, List.length_nil]
  -- left: the volume, `L.length + 1 + cm.length - L.length = 1 + cm.length`
  congr 3; omega

theorem endFragment_closed {s : PS} {i : Nat} {s' : PS} (h : s.endFragment i = .ok s') :
    Closed i s.cm.toList s'.cm.toList s.pos [] := by
  obtain ⟨e, he, rfl⟩ := endFragment_ok.1 h
  exact ⟨e, by simpa using he, by simp [Array.toList_setIfInBounds]⟩

/-- closing a leaf: the entry reserved at `s` becomes `(start, end, 1)` -/
theorem leaf_end {s s1 s2 : PS} (hcm : s1.cm = s.reserve.cm)
    (h : s1.endFragment s.cm.size = .ok s2) : s2.cm = s.cm.push ⟨s.pos, s1.pos, 1⟩ := by
  have hcl := endFragment_closed h
  -- `Closed` speaks of lists: the index `s.cm.size` has to read `s.cm.toList.length` for `Closed.last`
  rw [hcm, reserve_cm, Array.toList_push, ← Array.length_toList] at hcl
  exact Array.toList_inj.1 (by simpa using hcl.last)

/-- the forward twin of `leaf_end`: the leaf opened at `s` can be closed from any later state that has
    the code map of `s.reserve` -/
theorem leaf_close {s s1 : PS} (hcm : s1.cm = s.reserve.cm) :
    ∃ s2, s1.endFragment s.cm.size = .ok s2 ∧ s2.rest = s1.rest :=
  let ⟨s2, h⟩ := endFragment_total (s := s1) (i := s.cm.size)
    (by rw [hcm, reserve_cm, Array.size_push]; exact Nat.lt_succ_self _)
  ⟨s2, h, (endFragment_rest h).1⟩

/-- a literal run right after `reserve`: the text is its letters and the entry spans them -/
theorem literal_spec {α : Type} {cs : List Char} {a r : α} {s s' : PS}
    (h : Lex.literal cs s.cm.size a s.reserve = .ok (r, s')) :
    r = a ∧ s.rest = cs ++ s'.rest ∧ s'.cm = s.cm.push ⟨s.pos, s'.pos, 1⟩ := by
  obtain ⟨hr, s1, h1, h2⟩ := Lex.literal_ok.1 h
  obtain ⟨a1, b1⟩ := expectChars_spec h1
  have hp := endFragment_rest h2
  exact ⟨hr, by rw [hp.1]; exact b1, by rw [hp.2.1]; exact leaf_end a1 h2⟩

theorem lexNull_spec {s s' : PS} (h : lexNull s = .ok s') :
    s.rest = ['n', 'u', 'l', 'l'] ++ s'.rest ∧ s'.cm = s.cm.push ⟨s.pos, s'.pos, 1⟩ := by
  have h := Lex.lift_ok.2 h
  rw [lexNull_eq, Lex.bind_reserve] at h
  exact (literal_spec h).2

theorem lexBool_spec {s : PS} {b : Bool} {s' : PS} (h : lexBool s = .ok (b, s')) :
    s.rest = (if b then ['t', 'r', 'u', 'e'] else ['f', 'a', 'l', 's', 'e']) ++ s'.rest ∧
    s'.cm = s.cm.push ⟨s.pos, s'.pos, 1⟩ := by
  rw [lexBool_eq, Lex.bind_reserve] at h
  obtain ⟨d, _, _, h⟩ := Lex.peekC_ok.1 h
  rcases Lex.ite_eq.1 h with ⟨_, h⟩ | ⟨_, h⟩
  · obtain ⟨rfl, hk⟩ := literal_spec h
    exact hk
  rcases Lex.ite_eq.1 h with ⟨_, h⟩ | ⟨_, h⟩
  · obtain ⟨rfl, hk⟩ := literal_spec h
    exact hk
  · cases h

/-- numbers are kept byte-for-byte: the value is the text consumed, a `number` of the grammar -/
theorem lexNumber_spec {ctx : Ctx} {s : PS} {n : List Char} {s' : PS}
    (h : lexNumber ctx s = .ok (n, s')) :
    s.rest = n ++ s'.rest ∧ GNumber n ∧ s'.pos = s.pos + utf8Len n ∧
      s'.cm = s.cm.push ⟨s.pos, s'.pos, 1⟩ := by
  obtain ⟨r, p, hv, h2⟩ := lexNumber_ok.1 h
  obtain ⟨st, hv, _, hacc⟩ := numScan_ok.1 hv
  obtain ⟨w, hb, e, q, hs⟩ := numLoop_sound _ hv hacc
  subst hb
  have hp := endFragment_rest h2
  refine ⟨by rw [hp.1]; exact e, hs, by rw [hp.2.1]; exact q, ?_⟩
  rw [hp.2.1]
  exact leaf_end (s := s) (s1 := { s.reserve with rest := r, pos := p }) rfl h2

theorem lexString_cm {o : ParseOptions} {s : PS} {str : List Char} {s' : PS}
    (h : lexString o s = .ok (str, s')) : s'.cm = s.cm.push ⟨s.pos, s'.pos, 1⟩ := by
  obtain ⟨r, r', p, _, _, h1⟩ := lexString_ok.1 h
  rw [(endFragment_rest h1).2.1]
  exact leaf_end (s := s) (s1 := { s.reserve with rest := r', pos := p }) rfl h1

end JsonVerif
