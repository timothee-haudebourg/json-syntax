import JsonVerif.Model.SerdeJson
/-! # serde_json → json-syntax → serde_json is the identity (C18, first clause) -/
namespace JsonVerif
variable {SNum : Type}

-- well-formed serde_json values: object keys strictly ascending (what a BTreeMap holds), numbers
-- satisfying the representation invariant `P`
mutual
def SJ.WF (lt : List Char → List Char → Bool) (P : SNum → Prop) : SJ SNum → Prop
  | .number n => P n
  | .array xs => SJ.WFL lt P xs
  | .object es => SJ.WFM lt P es ∧ (es.map (·.1)).Pairwise (fun a b => lt a b = true)
  | _ => True
def SJ.WFL (lt : List Char → List Char → Bool) (P : SNum → Prop) : List (SJ SNum) → Prop
  | [] => True
  | x :: xs => SJ.WF lt P x ∧ SJ.WFL lt P xs
def SJ.WFM (lt : List Char → List Char → Bool) (P : SNum → Prop) : List (List Char × SJ SNum) → Prop
  | [] => True
  | (_, x) :: es => SJ.WF lt P x ∧ SJ.WFM lt P es
end

theorem mapInsert_append (lt : List Char → List Char → Bool)
    (hirr : ∀ a, lt a a = false) (hasym : ∀ a b, lt a b = true → lt b a = false)
    (k : List Char) (v : SJ SNum) :
    ∀ (acc : List (List Char × SJ SNum)), (∀ l ∈ acc.map (·.1), lt l k = true) →
      mapInsert lt k v acc = acc ++ [(k, v)]
  | [], _ => rfl
  | (l, w) :: r, h => by
    have hl : lt l k = true := h l List.mem_cons_self
    have h2 : (k == l) = false := beq_eq_false_iff_ne.mpr fun e => by rw [e, hirr] at hl; cases hl
    simp only [mapInsert, hasym l k hl, h2, Bool.false_eq_true, ↓reduceIte, List.cons_append]
    rw [mapInsert_append lt hirr hasym k v r fun l' hl' => h l' (List.mem_cons_of_mem _ hl')]

-- `hirr` and `hasym` serve `mapInsert_append` only; `htr` is threaded through the three statements
-- and used nowhere: `Pairwise` already relates every key to all later ones
mutual
theorem into_from (lt : List Char → List Char → Bool) (disp : SNum → List Char)
    (conv : List Char → Option SNum)
    (hirr : ∀ a, lt a a = false) (hasym : ∀ a b, lt a b = true → lt b a = false)
    (htr : ∀ a b c, lt a b = true → lt b c = true → lt a c = true)
    (P : SNum → Prop) (hnum : ∀ n, P n → conv (disp n) = some n) :
    ∀ x : SJ SNum, SJ.WF lt P x → intoSj lt conv (fromSj disp x) = x := by
  intro x h
  cases x with
  | null => rfl
  | bool _ => rfl
  | number n => simp only [fromSj, intoSj, hnum n h]
  | string _ => rfl
  | array xs => simp only [fromSj, intoSj, into_fromL lt disp conv hirr hasym htr P hnum xs h]
  | object es =>
    simp only [fromSj, intoSj]
    exact congrArg SJ.object
      (into_fromM lt disp conv hirr hasym htr P hnum es [] h.1 h.2 fun _ hl => nomatch hl)
theorem into_fromL (lt : List Char → List Char → Bool) (disp : SNum → List Char)
    (conv : List Char → Option SNum)
    (hirr : ∀ a, lt a a = false) (hasym : ∀ a b, lt a b = true → lt b a = false)
    (htr : ∀ a b c, lt a b = true → lt b c = true → lt a c = true)
    (P : SNum → Prop) (hnum : ∀ n, P n → conv (disp n) = some n) :
    ∀ xs : List (SJ SNum), SJ.WFL lt P xs → intoSjL lt conv (fromSjL disp xs) = xs := by
  intro xs h
  cases xs with
  | nil => rfl
  | cons x xs =>
    simp only [fromSjL, intoSjL, into_from lt disp conv hirr hasym htr P hnum x h.1,
      into_fromL lt disp conv hirr hasym htr P hnum xs h.2]
theorem into_fromM (lt : List Char → List Char → Bool) (disp : SNum → List Char)
    (conv : List Char → Option SNum)
    (hirr : ∀ a, lt a a = false) (hasym : ∀ a b, lt a b = true → lt b a = false)
    (htr : ∀ a b c, lt a b = true → lt b c = true → lt a c = true)
    (P : SNum → Prop) (hnum : ∀ n, P n → conv (disp n) = some n) :
    ∀ (es acc : List (List Char × SJ SNum)), SJ.WFM lt P es →
      (es.map (·.1)).Pairwise (fun a b => lt a b = true) →
      (∀ l ∈ acc.map (·.1), ∀ k ∈ es.map (·.1), lt l k = true) →
      intoSjM lt conv (fromSjM disp es) acc = acc ++ es := by
  intro es acc h hs hacc
  cases es with
  | nil => simp only [fromSjM, intoSjM, List.append_nil]
  | cons e es =>
    obtain ⟨k, x⟩ := e
    obtain ⟨hk, hs'⟩ := List.pairwise_cons.mp hs
    simp only [fromSjM, intoSjM, into_from lt disp conv hirr hasym htr P hnum x h.1,
      mapInsert_append lt hirr hasym k x acc fun l hl => hacc l hl k List.mem_cons_self]
    rw [into_fromM lt disp conv hirr hasym htr P hnum es (acc ++ [(k, x)]) h.2 hs', List.append_assoc]
    · rfl
    · intro l hl k' hk'
      rw [List.map_append] at hl
      rcases List.mem_append.mp hl with hl | hl
      · exact hacc l hl k' (List.mem_cons_of_mem _ hk')
      · cases List.mem_singleton.mp hl
        exact hk k' hk'
end

end JsonVerif
