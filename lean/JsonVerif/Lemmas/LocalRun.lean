import JsonVerif.Lemmas.Run
/-!
# Locality of the whole machine: an unexpected-character error inside a prefix is the same whatever follows
-/
namespace JsonVerif

theorem Goto.local {o k v s k' v' s'} {l x : List Char} (h : Goto o k v s k' v' s') (hs : s.rest = l ++ x)
    (hlt : s'.pos < s.pos + utf8Len l) :
    ∃ r, s'.rest = r ++ x ∧ ∀ y, Goto o k v (s.re (l ++ y)) k' v' (s'.re (r ++ y)) := by
  cases h with
  | frag hk h => obtain ⟨r, hr, hy⟩ := parseFragment_local hs h hlt; exact ⟨r, hr, fun y => .frag hk (hy y)⟩
  | item => exact ⟨l, hs, fun _ => .item⟩
  | entry h => exact ⟨l, (endFragment_rest h).1 ▸ hs, fun y => .entry (endFragment_re h _)⟩
  | arr h => obtain ⟨r, hr, hy⟩ := contArray_local hs h hlt; exact ⟨r, hr, fun y => .arr (hy y)⟩
  | obj h => obtain ⟨r, hr, hy⟩ := contObject_local hs h hlt; exact ⟨r, hr, fun y => .obj (hy y)⟩

theorem run_local_err {o : ParseOptions} {x : List Char} {q : Nat} {c : Char} (y : List Char)
    (stack : List StackItem) (value : Option JValue) (s : PS) :
    ∀ (l : List Char), s.rest = l ++ x → run o stack value s = .error (.unexpected q (some c)) →
      q < s.pos + utf8Len l → run o stack value (s.re (l ++ y)) = .error (.unexpected q (some c)) := by
  induction stack, value, s using run_induct o with
  | halt hh =>
    intro l hs h hlt
    rw [run_halt hh] at h
    subst h
    obtain ⟨_, _, w, he, back⟩ := hh.wb
    exact back (w.loc_err hs he hlt y)
  | goto hg ih =>
    intro l hs h hlt
    rw [run_goto hg] at h
    -- the error lies at or after the end of this move, so the move ended strictly inside `l`
    have hq := (run_err h).pos_le
    obtain ⟨r, hr, hy⟩ := hg.local hs (by omega)
    rw [run_goto (hy y)]
    exact ih r hr h (by have := local_bound hg.adv hs hr; omega)

end JsonVerif
