import JsonVerif.Lemmas.Serde
import JsonVerif.Lemmas.DeLoops
/-!
# Loop lemmas for the round trip: the map / struct serializers build the entry list in order, the
derive-style struct visitor fills its slots in order
-/
namespace JsonVerif

/-- `SerializeStructVariant`: distinct names -/
theorem serFieldsPlain_typed : ∀ (l : List (List Char × SData)) (vs : List JValue)
    (acc : List (List Char × JValue)),
    l.map (fun f => ser f.2) = vs.map Except.ok → ((acc.map (·.1)) ++ l.map (·.1)).Nodup →
    serFieldsPlain l acc = .ok (acc ++ (l.map (·.1)).zip vs) := by
  intro fs
  induction fs with
  | nil => intro vs acc _ _; simp [serFieldsPlain]
  | cons f fs ih =>
    intro vs acc hv hnd
    obtain ⟨k, d⟩ := f
    cases vs with
    | nil => simp at hv
    | cons x vs =>
      simp only [List.map_cons, List.cons.injEq] at hv
      simp only [serFieldsPlain, hv.1, listInsert_next x hnd]
      rw [ih vs (acc ++ [(k, x)]) hv.2 (by simpa using hnd)]
      simp

/-- `SerializeMap`: keys spelled `ns` (distinct, none the number token), values `vs` -/
theorem serMap_typed : ∀ (l : List (SData × SData)) (ns : List (List Char)) (vs : List JValue)
    (acc : List (List Char × JValue)),
    l.map (fun e => serKey e.1) = ns.map Except.ok → l.map (fun e => ser e.2) = vs.map Except.ok →
    ((acc.map (·.1)) ++ ns).Nodup → numberToken ∉ ns →
    serMap l (.object acc) = .ok (.object (acc ++ ns.zip vs)) := by
  intro l
  induction l with
  | nil =>
    intro ns vs acc hk _ _ _
    cases ns with
    | nil => simp [serMap]
    | cons _ _ => simp at hk
  | cons e l ih =>
    intro ns vs acc hk hv hnd hnt
    obtain ⟨kd, d⟩ := e
    cases ns with
    | nil => simp at hk
    | cons n ns =>
      cases vs with
      | nil => simp at hv
      | cons x vs =>
        simp only [List.map_cons, List.cons.injEq] at hk hv
        have hn : (n == numberToken) = false :=
          beq_eq_false_iff_ne.mpr fun e => hnt (e ▸ List.mem_cons_self)
        simp only [serMap, hk.1, hn, Bool.and_false, Bool.false_eq_true, ↓reduceIte, hv.1,
          listInsert_next x hnd]
        rw [ih ns vs (acc ++ [(n, x)]) hk.2 hv.2 (by simpa using hnd) fun h => hnt (List.mem_cons_of_mem _ h)]
        simp

/-- the two loops of Model/Serde.lean coincide: a struct is a map whose keys are the field names -/
theorem serFields_eq_serMap : ∀ (l : List (List Char × SData)) (st : MapState),
    serFields l st = serMap (l.map fun f => (.str f.1, f.2)) st
  | [], st => by rcases st with _ | _ | _ <;> simp only [serFields, serMap, List.map_nil]
  | (k, d) :: l, .number _ => by simp [serFields, serMap]
  | (k, d) :: l, .object es => by
    simp only [serFields, List.map_cons, serMap, serKey, serFields_eq_serMap l]

/-- `SerializeStruct`: distinct names, none the number token -/
theorem serFields_typed : ∀ (l : List (List Char × SData)) (vs : List JValue)
    (acc : List (List Char × JValue)),
    l.map (fun f => ser f.2) = vs.map Except.ok → ((acc.map (·.1)) ++ l.map (·.1)).Nodup →
    numberToken ∉ l.map (·.1) →
    serFields l (.object acc) = .ok (.object (acc ++ (l.map (·.1)).zip vs)) := by
  intro l vs acc hv hnd hnt
  rw [serFields_eq_serMap]
  exact serMap_typed _ _ vs acc (by simp [serKey, Function.comp_def])
    (by simpa [Function.comp_def] using hv) hnd hnt

/-- the fields' values deserialize to the data, position by position -/
def DeFields (env : FEnv) : List (List Char × DTy) → List (List Char × JValue) → List SData → Prop
  | [], es, xs => es = [] ∧ xs = []
  | (n, t) :: fs, es, xs => ∃ v es' x xs', es = (n, v) :: es' ∧ xs = x :: xs' ∧ de env t v = .ok x ∧
      DeFields env fs es' xs'

theorem deField_at (env : FEnv) : ∀ (pre : List (List Char × DTy)) (n : List Char) (t : DTy)
    (post : List (List Char × DTy)) (i : Nat) (v : JValue), n ∉ pre.map (·.1) →
    deField env (pre ++ (n, t) :: post) i n v = some (i + pre.length, de env t v) := by
  intro pre
  induction pre with
  | nil => intro n t post i v _; rw [List.nil_append, deField_cons, beq_self_eq_true, if_pos rfl]; rfl
  | cons p pre ih =>
    intro n t post i v hn
    obtain ⟨m, s⟩ := p
    have hm : (m == n) = false := beq_eq_false_iff_ne.mpr fun e => hn (e ▸ List.mem_cons_self)
    rw [List.cons_append, deField_cons, hm, if_neg Bool.false_ne_true,
      ih n t post (i + 1) v fun h => hn (List.mem_cons_of_mem _ h), List.length_cons,
      Nat.add_assoc, Nat.add_comm 1]

theorem fillSlots_typed (env : FEnv) (fs : List (List Char × DTy)) (hnd : (fs.map (·.1)).Nodup) :
    ∀ (post pre : List (List Char × DTy)) (es : List (List Char × JValue)) (xs : List SData)
      (done : List (Option SData)),
    fs = pre ++ post → done.length = pre.length → DeFields env post es xs →
    fillSlots (deField env fs 0) es (done ++ post.map (fun _ => none)) = .ok (done ++ xs.map some) := by
  intro post
  induction post with
  | nil =>
    intro pre es xs done _ _ h
    obtain ⟨rfl, rfl⟩ := h
    simp [fillSlots]
  | cons f post ih =>
    intro pre es xs done hfs hlen h
    obtain ⟨n, t⟩ := f
    obtain ⟨v, es', x, xs', rfl, rfl, hde, hrest⟩ := h
    subst hfs
    simp only [List.map_append, List.map_cons] at hnd
    have hlook := deField_at env pre n t post 0 v
      fun hk => (List.nodup_append.mp hnd).2.2 n hk n (by simp) rfl
    rw [Nat.zero_add, ← hlen] at hlook
    refine (fillSlots_cons_some hlook).2 ⟨fun d' => by simp, x, hde, ?_⟩
    have := ih (pre ++ [(n, t)]) es' xs' (done ++ [some x]) (by simp) (by simp [hlen]) hrest
    simpa using this

theorem closeSlots_typed : ∀ (fs : List (List Char × DTy)) (xs : List SData), fs.length = xs.length →
    closeSlots fs (xs.map some) = .ok ((fs.map (·.1)).zip xs) := by
  intro fs
  induction fs with
  | nil => intro xs _; simp [closeSlots]
  | cons f fs ih =>
    intro xs h
    obtain ⟨n, t⟩ := f
    cases xs with
    | nil => simp at h
    | cons x xs =>
      simp only [List.length_cons, Nat.add_right_cancel_iff] at h
      simp [closeSlots, ih xs h]

theorem DeFields.length (env : FEnv) : ∀ (fs : List (List Char × DTy)) (es : List (List Char × JValue))
    (xs : List SData), DeFields env fs es xs → fs.length = xs.length := by
  intro fs
  induction fs with
  | nil => intro es xs h; obtain ⟨_, rfl⟩ := h; rfl
  | cons f fs ih =>
    intro es xs h
    obtain ⟨n, t⟩ := f
    obtain ⟨v, es', x, xs', rfl, rfl, _, hrest⟩ := h
    simp [ih es' xs' hrest]

theorem structVisit_typed (env : FEnv) (fs : List (List Char × DTy)) (hnd : (fs.map (·.1)).Nodup)
    (es : List (List Char × JValue)) (l : List (List Char × SData)) (hn : l.map (·.1) = fs.map (·.1))
    (h : DeFields env fs es (l.map (·.2))) (mk : List (List Char × SData) → SData) :
    structVisit env fs es mk = .ok (mk l) := by
  have := fillSlots_typed env fs hnd fs [] es _ [] rfl rfl h
  simp only [List.nil_append] at this
  rw [structVisit, this, Except.bind, closeSlots_typed fs _ (DeFields.length env fs es _ h), ← hn]
  exact congrArg (fun x => Except.ok (mk x)) (List.zip_of_prod rfl rfl).symm

end JsonVerif
