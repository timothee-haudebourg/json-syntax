import JsonVerif.Model.ParseLen
/-!
# Locality: what the parser does before it has looked past a prefix does not depend on what follows

`s.re r` is the state `s` with its unread input replaced by `r`. For every lexical function `f`:
if the unread input is `l ++ x` and `f` stops (successfully, or with an unexpected-character error)
strictly inside `l`, then on the unread input `l ++ y` it stops in the same way, for every `y`.
This is the single-pass / one-character-lookahead discipline of the parser as a theorem; C07's
"no longer prefix is viable" rests on it.
-/
namespace JsonVerif

theorem utf8Size_pos (c : Char) : 0 < c.utf8Size := Char.utf8Size_pos c

/-- a state strictly inside the prefix has a next character, and it belongs to the prefix. The bound is
    a variable `b` with an equation, so that a caller whose bound is written otherwise hands in `rfl`
    or its own equation. -/
theorem head_of_lt {s : PS} {r x : List Char} (hr : s.rest = r ++ x) {b : Nat}
    (hb : s.pos + utf8Len r = b) (hlt : s.pos < b) : ∃ d r', r = d :: r' := by
  cases r with
  | nil => simp at hb; omega
  | cons d r' => exact ⟨d, r', rfl⟩

def PS.re (s : PS) (r : List Char) : PS := { s with rest := r }

@[simp] theorem PS.re_rest (s : PS) (r : List Char) : (s.re r).rest = r := rfl
@[simp] theorem PS.re_pos (s : PS) (r : List Char) : (s.re r).pos = s.pos := rfl
@[simp] theorem PS.re_bad (s : PS) (r : List Char) : (s.re r).bad = s.bad := rfl
@[simp] theorem PS.re_cm (s : PS) (r : List Char) : (s.re r).cm = s.cm := rfl
@[simp] theorem PS.re_re (s : PS) (r r' : List Char) : (s.re r).re r' = s.re r' := rfl
theorem PS.re_self (s : PS) : s.re s.rest = s := rfl
@[simp] theorem PS.reserve_re (s : PS) (r : List Char) : (s.re r).reserve = s.reserve.re r := rfl
@[simp] theorem PS.adv_re (s : PS) (c : Char) (r r' : List Char) : (s.re r').adv c r = s.adv c r := rfl

theorem endFragment_re {s : PS} {i : Nat} {s' : PS} (h : s.endFragment i = .ok s') (r : List Char) :
    (s.re r).endFragment i = .ok (s'.re r) := by
  obtain ⟨e, he, rfl⟩ := endFragment_ok.1 h
  exact endFragment_ok.2 ⟨e, he, rfl⟩

/-- two ways of cutting the same input: the one that consumed no more bytes is a prefix -/
theorem split_of_le {l x w t : List Char} (h : l ++ x = w ++ t) (hle : utf8Len w ≤ utf8Len l) :
    ∃ r, l = w ++ r ∧ t = r ++ x := by
  induction w generalizing l with
  | nil => exact ⟨l, by simp, by simpa using h.symm⟩
  | cons c w ih =>
    cases l with
    | nil => simp at hle; have := utf8Size_pos c; omega
    | cons d l =>
      simp only [List.cons_append, List.cons.injEq] at h
      obtain ⟨rfl, h⟩ := h
      simp only [utf8Len_cons] at hle
      obtain ⟨r, hl, ht⟩ := ih h (by omega)
      exact ⟨r, by simp [hl], ht⟩

theorem split_of_lt {l x w t : List Char} (h : l ++ x = w ++ t) (hlt : utf8Len w < utf8Len l) :
    ∃ r, r ≠ [] ∧ l = w ++ r ∧ t = r ++ x := by
  obtain ⟨r, rfl, rfl⟩ := split_of_le h (Nat.le_of_lt hlt)
  refine ⟨r, ?_, rfl, rfl⟩
  rintro rfl
  rw [List.append_nil] at hlt
  exact Nat.lt_irrefl _ hlt

theorem advL_split {l x l' : List Char} {p p' : Nat} (ha : AdvL (l ++ x) p l' p')
    (hlt : p' < p + utf8Len l) :
    ∃ w r, r ≠ [] ∧ l = w ++ r ∧ l' = r ++ x ∧ p' = p + utf8Len w := by
  obtain ⟨w, e, hp⟩ := ha
  obtain ⟨r, hr, hl, ht⟩ := split_of_lt e (by omega)
  exact ⟨w, r, hr, hl, ht, hp⟩

theorem adv_split {s s1 : PS} {l x : List Char} (ha : Adv s s1) (hs : s.rest = l ++ x)
    (hlt : s1.pos < s.pos + utf8Len l) :
    ∃ w r, r ≠ [] ∧ l = w ++ r ∧ s1.rest = r ++ x ∧ s1.pos = s.pos + utf8Len w :=
  advL_split (hs ▸ ha.1) hlt

/-- what is left of `l` after the step, counted from the new offset, ends at the old bound -/
theorem local_boundL {l x r : List Char} {p p' : Nat} (ha : AdvL (l ++ x) p (r ++ x) p') :
    p' + utf8Len r = p + utf8Len l := by
  obtain ⟨_, e, hp⟩ := ha
  rw [← List.append_assoc] at e
  rw [List.append_cancel_right e, hp, utf8Len_append, Nat.add_assoc]

theorem local_bound {s s1 : PS} {l x r : List Char} (ha : Adv s s1) (hs : s.rest = l ++ x)
    (hr : s1.rest = r ++ x) : s1.pos + utf8Len r = s.pos + utf8Len l :=
  local_boundL (hr ▸ hs ▸ ha.1)

theorem skipWsL_local : ∀ (l x : List Char) (p : Nat), (skipWsL (l ++ x) p).2 < p + utf8Len l →
    ∃ r, r ≠ [] ∧ (skipWsL (l ++ x) p).1 = r ++ x ∧
      ∀ y, skipWsL (l ++ y) p = (r ++ y, (skipWsL (l ++ x) p).2)
  | [], x, p, h => by
    have := (skipWsL_adv x p).le
    simp only [List.nil_append, utf8Len_nil] at h
    omega
  | c :: l, x, p, h => by
    simp only [List.cons_append, skipWsL] at h ⊢
    by_cases hc : isWs c = true
    · simp only [hc, ↓reduceIte] at h ⊢
      exact skipWsL_local l x (p + c.utf8Size) (by simp only [utf8Len_cons] at h; omega)
    · simp only [hc, Bool.false_eq_true, ↓reduceIte] at h ⊢
      exact ⟨c :: l, List.cons_ne_nil _ _, rfl, fun y => rfl⟩

theorem skipWs_local {s s1 : PS} {l x : List Char} (hs : s.rest = l ++ x) (h : skipWs s = .ok s1)
    (hlt : s1.pos < s.pos + utf8Len l) :
    ∃ r, s1.rest = r ++ x ∧ ∀ y, skipWs (s.re (l ++ y)) = .ok (s1.re (r ++ y)) := by
  obtain ⟨rfl, _⟩ := skipWs_ok.1 h
  rw [hs] at hlt ⊢
  obtain ⟨r, hne, hr, hy⟩ := skipWsL_local l x s.pos hlt
  refine ⟨r, hr, fun y => skipWs_ok.2 ⟨?_, fun h0 => ?_⟩⟩
  · simp only [PS.re, hy y]
  · -- something of `l` is left, so the end-of-stream check is not reached
    rw [PS.re_rest, PS.re_pos, hy y] at h0
    exact absurd (List.append_eq_nil_iff.1 h0).1 hne

theorem skipWs_no_unexpected {s : PS} {q : Nat} {c : Option Char} : skipWs s ≠ .error (.unexpected q c) :=
  fun h => nomatch (skipWs_error.1 h).2.2

theorem numLoop_local {ctx : Ctx} {l x : List Char} {st : NumState} {buf : List Char} {pos : Nat}
    {st' : NumState} {buf' r' : List Char} {p' : Nat}
    (h : numLoop ctx st buf (l ++ x) pos = .ok (st', buf', r', p')) (hlt : p' < pos + utf8Len l) :
    ∃ r, r' = r ++ x ∧ ∀ y, numLoop ctx st buf (l ++ y) pos = .ok (st', buf', r ++ y, p') := by
  obtain ⟨_, hl, hr, hs, rfl, rfl⟩ := numLoop_ok_inv h
  obtain ⟨r, hne, rfl, rfl⟩ := split_of_lt hl (by omega)
  refine ⟨r, rfl, fun y => ?_⟩
  rw [List.append_assoc, numLoop_run hr, numLoop_stops]
  cases r with
  | nil => contradiction
  | cons c r => exact hs

theorem numLoop_local_err {ctx : Ctx} {l x : List Char} {st : NumState} {buf : List Char} {pos : Nat}
    {q : Nat} {c : Char}
    (h : numLoop ctx st buf (l ++ x) pos = .error (.unexpected q (some c))) (hlt : q < pos + utf8Len l) :
    ∀ y, numLoop ctx st buf (l ++ y) pos = .error (.unexpected q (some c)) := by
  obtain ⟨_, _, _, _, hl, hr, hb, he⟩ := numLoop_err_inv h
  cases he
  obtain ⟨r0, hne, rfl, hr0⟩ := split_of_lt hl (by omega)
  intro y
  cases r0 with
  | nil => contradiction
  | cons d r0 =>
    cases hr0
    rw [List.append_assoc, numLoop_run hr, List.cons_append, numLoop_bad hb]

theorem numScan_local {ctx : Ctx} {bad : Bool} {l x : List Char} {pos : Nat} {n r' : List Char} {p : Nat}
    (h : numScan ctx bad (l ++ x) pos = .ok (n, r', p)) (hlt : p < pos + utf8Len l) :
    ∃ r, r' = r ++ x ∧ ∀ y, numScan ctx bad (l ++ y) pos = .ok (n, r ++ y, p) := by
  obtain ⟨st, hv, _, ha⟩ := numScan_ok.1 h
  obtain ⟨r, hr, hy⟩ := numLoop_local hv hlt
  refine ⟨r, hr, fun y => numScan_ok.2 ⟨st, hy y, ?_, ha⟩⟩
  -- the loop stopped strictly inside `l`: something of `l` is left
  cases r with
  | cons => rfl
  | nil =>
    obtain ⟨_, hl, _, _, _, hp⟩ := numLoop_ok_inv hv
    rw [hr, List.nil_append] at hl
    rw [List.append_cancel_right hl] at hlt; omega

theorem numScan_local_err {ctx : Ctx} {bad : Bool} {l x : List Char} {pos q : Nat} {c : Char}
    (h : numScan ctx bad (l ++ x) pos = .error (.unexpected q (some c))) (hlt : q < pos + utf8Len l) :
    ∀ y, numScan ctx bad (l ++ y) pos = .error (.unexpected q (some c)) := by
  intro y
  rcases numScan_error_shape h with ⟨h, _⟩ | ⟨_, h⟩ | h
  · simp only [numScan, numLoop_local_err h hlt y]
  · cases h
  · cases h

/-- being stuck depends on the next character only -/
theorem Stuck.of_head {w t t' : List Char} (h : Stuck w t) (ht : t'.head? = t.head?) : Stuck w t' := by
  cases h with
  | start _ h => exact .start _ (ht ▸ h)
  | esc _ h => exact .esc _ (ht ▸ h)
  | hex ds _ h1 h2 h3 => exact .hex ds _ h1 h2 (ht ▸ h3)

/-- an iteration that hands on before the end of `l` does the same whatever follows `l` -/
theorem strStep_more_local {o : ParseOptions} {bad : Bool} {acc : List Char} {high : Option (Nat × Nat)}
    {l x : List Char} {pos : Nat} {a : List Char} {hi : Option (Nat × Nat)} {r' : List Char} {p : Nat}
    (h : strStep o bad acc high (l ++ x) pos = .more a hi r' p) (hlt : p < pos + utf8Len l) :
    ∃ r, r' = r ++ x ∧ ∀ y, strStep o bad acc high (l ++ y) pos = .more a hi (r ++ y) p := by
  obtain ⟨_, _, _, hr, hl, rfl, he, rfl⟩ := strStep_more_inv h
  obtain ⟨r, _, rfl, rfl⟩ := split_of_lt hl (by omega)
  exact ⟨r, rfl, fun y => by rw [List.append_assoc, strStep_out hr he]⟩

theorem strStep_done_local {o : ParseOptions} {bad : Bool} {acc : List Char} {high : Option (Nat × Nat)}
    {l x : List Char} {pos : Nat} {a r' : List Char} {p q : Nat}
    (h : strStep o bad acc high (l ++ x) pos = .done a r' p q) (hlt : p < pos + utf8Len l) :
    ∃ r, r' = r ++ x ∧ ∀ y, strStep o bad acc high (l ++ y) pos = .done a (r ++ y) p q := by
  obtain ⟨hl, rfl, rfl, _, _, he, rfl⟩ := strStep_done_inv h
  obtain ⟨r, _, rfl, rfl⟩ := split_of_lt (w := ['"']) hl (by simpa using hlt)
  refine ⟨r, rfl, fun y => ?_⟩
  rw [List.append_assoc, strStep_reads .quote]
  simp only [utf8Len_cons, utf8Len_nil, Nat.add_zero, he]; rfl

theorem strStep_unexpected_local {o : ParseOptions} {bad : Bool} {acc : List Char}
    {high : Option (Nat × Nat)} {l x : List Char} {pos q : Nat} {c : Char}
    (h : strStep o bad acc high (l ++ x) pos = .err (.unexpected q (some c))) (hlt : q < pos + utf8Len l) :
    ∀ y, strStep o bad acc high (l ++ y) pos = .err (.unexpected q (some c)) := by
  obtain ⟨_, _, hs, hl, rfl, hc, _⟩ := strStep_unexpected_inv h
  obtain ⟨r, _, rfl, rfl⟩ := split_of_lt hl (by omega)
  intro y
  cases r with
  | nil => contradiction
  | cons d r =>
    cases hc
    rw [List.append_assoc, strStep_stuck (hs.of_head (t' := _ :: r ++ y) rfl)]; rfl

/-- (no corollary of `strScan_errOk`: `strLoopAux_stepSpec` needs `HighOk` of the pending surrogate, which
    an arbitrary `high` does not have) -/
theorem strLoopAux_err_pos {o : ParseOptions} {bad : Bool} (fuel : List Char)
    {acc : List Char} {high : Option (Nat × Nat)} {l : List Char} {pos q : Nat} {c : Option Char}
    (h : strLoopAux o bad fuel acc high l pos = .error (.unexpected q c)) : pos ≤ q :=
  strLoopAux_error_inv (I := fun _ _ p' => pos ≤ p') (Q := fun e => ∀ q c, e = .unexpected q c → pos ≤ q)
    (fun _ hI hs => Nat.le_trans hI (strStep_more_adv hs).le)
    (fun _ hI hs q c he => by
      obtain ⟨_, _, _, _, rfl, _⟩ := strStep_unexpected_inv (he ▸ hs)
      exact Nat.le_trans hI (Nat.le_add_right _ _))
    (fun _ _ he => nomatch he) h (Nat.le_refl _) q c rfl

/-- `lexString` uses the input as fuel, and the input changes with `y`: so the run on `l ++ y` is stated
    for any fuel that suffices -/
theorem strLoopAux_local {o : ParseOptions} {bad : Bool} {fuel1 : List Char} {acc : List Char}
    {high : Option (Nat × Nat)} {l x : List Char} {pos : Nat} {a r' : List Char} {p q : Nat}
    (h : strLoopAux o bad fuel1 acc high (l ++ x) pos = .ok (a, r', p, q)) (hlt : p < pos + utf8Len l) :
    ∃ r, r' = r ++ x ∧ ∀ y fuel2, (l ++ y).length ≤ fuel2.length →
      strLoopAux o bad fuel2 acc high (l ++ y) pos = .ok (a, r ++ y, p, q) := by
  generalize hlx : l ++ x = lx at h
  induction fuel1, acc, high, lx, pos using strLoopAux_induct (o := o) (bad := bad) generalizing l with
  | done hs =>
    rw [strLoopAux_done hs] at h; cases h; subst hlx
    obtain ⟨r, hr, hy⟩ := strStep_done_local hs hlt
    exact ⟨r, hr, fun y fuel2 _ => strLoopAux_done (hy y) _⟩
  | err hs => rw [strLoopAux_err hs] at h; cases h
  | fuel hs => rw [strLoopAux_fuel hs] at h; cases h
  | more hs ih =>
    rw [strLoopAux_more hs] at h; subst hlx
    -- the iteration ends no later than the run, hence inside `l`: it is local, and what it leaves of
    -- `l` (`r1`, which ends at the same bound) is the prefix for the rest of the run
    have hle := (strLoopAux_adv _ h).le
    obtain ⟨r1, rfl, hy1⟩ := strStep_more_local hs (by omega)
    have hb := local_boundL (strStep_more_adv hs)
    obtain ⟨r, hr, hy⟩ := ih (l := r1) (by omega) rfl h
    refine ⟨r, hr, fun y fuel2 hf => ?_⟩
    obtain ⟨f, fuel2, rfl, hf'⟩ := strStep_fuel (hy1 y) hf
    rw [strLoopAux_more (hy1 y)]
    exact hy y fuel2 hf'

theorem strLoopAux_local_err {o : ParseOptions} {bad : Bool} {fuel1 : List Char} {acc : List Char}
    {high : Option (Nat × Nat)} {l x : List Char} {pos : Nat} {q : Nat} {c : Char}
    (h : strLoopAux o bad fuel1 acc high (l ++ x) pos = .error (.unexpected q (some c)))
    (hlt : q < pos + utf8Len l) :
    ∀ y fuel2, (l ++ y).length ≤ fuel2.length →
      strLoopAux o bad fuel2 acc high (l ++ y) pos = .error (.unexpected q (some c)) := by
  generalize hlx : l ++ x = lx at h
  induction fuel1, acc, high, lx, pos using strLoopAux_induct (o := o) (bad := bad) generalizing l with
  | done hs => rw [strLoopAux_done hs] at h; cases h
  | err hs =>
    rw [strLoopAux_err hs] at h; cases h; subst hlx
    exact fun y fuel2 _ => strLoopAux_err (strStep_unexpected_local hs hlt y) _
  | fuel hs => rw [strLoopAux_fuel hs] at h; cases h
  | more hs ih =>
    rw [strLoopAux_more hs] at h; subst hlx
    -- as in `strLoopAux_local`, with the error offset in place of the end of the run
    have hle := strLoopAux_err_pos _ h
    obtain ⟨r1, rfl, hy1⟩ := strStep_more_local hs (by omega)
    have hb := local_boundL (strStep_more_adv hs)
    intro y fuel2 hf
    obtain ⟨f, fuel2, rfl, hf'⟩ := strStep_fuel (hy1 y) hf
    rw [strLoopAux_more (hy1 y)]
    exact ih (l := r1) (by omega) rfl h y fuel2 hf'

theorem strScan_local {o : ParseOptions} {bad : Bool} {l x : List Char} {pos : Nat} {str r' : List Char} {p : Nat}
    (h : strScan o bad (l ++ x) pos = .ok (str, r', p)) (hlt : p < pos + utf8Len l) :
    ∃ r, r' = r ++ x ∧ ∀ y, strScan o bad (l ++ y) pos = .ok (str, r ++ y, p) := by
  obtain ⟨q, hv⟩ := strScan_ok.1 h
  obtain ⟨r, hr, hy⟩ := strLoopAux_local hv hlt
  exact ⟨r, hr, fun y => strScan_ok.2 ⟨q, hy y (l ++ y) (Nat.le_refl _)⟩⟩

theorem strScan_local_err {o : ParseOptions} {bad : Bool} {l x : List Char} {pos q : Nat} {c : Char}
    (h : strScan o bad (l ++ x) pos = .error (.unexpected q (some c))) (hlt : q < pos + utf8Len l) :
    ∀ y, strScan o bad (l ++ y) pos = .error (.unexpected q (some c)) := fun y =>
  strScan_error.2 (strLoopAux_local_err (strScan_error.1 h) hlt y (l ++ y) (Nat.le_refl _))

end JsonVerif
