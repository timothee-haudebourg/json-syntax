import JsonVerif.Lemmas.NoPanic
import JsonVerif.Lemmas.LGramComplete
/-!
# Closing lemma: from any well-formed machine configuration some input makes the run succeed

`closers k`: one closing bracket per open container of the stack. `zcomp k v` ("z" for the `0` it may
start with): the completion of the configuration `(k, v)` — a `0` when a value is awaited, then the
closers. The run on it succeeds from ANY state whose code-map indices cover the stack (`StackOk`)
and whose stream has not failed (`s.bad = false`: at the end of the input `skipWs` fails on a
stream that ended in a decoding error).
-/
namespace JsonVerif

def closers : List StackItem → List Char
  | [] => []
  | .array _ _ :: k => ']' :: closers k
  | .arrayItem _ _ :: k => ']' :: closers k
  | .object _ _ :: k => '}' :: closers k
  | .objectEntry _ _ _ _ :: k => '}' :: closers k

/-- `0` is the shortest value, and the closing bracket of the awaiting frame may follow it
    (`followOK_closers`). The `none` cases are those of `awaits` (`zcomp_awaits`); the last line is a
    value pending or a separator awaited (`zcomp_closers`). -/
def zcomp (stack : List StackItem) (value : Option JValue) : List Char :=
  match stack, value with
  | [], none => ['0']
  | .arrayItem _ _ :: _, none => '0' :: closers stack
  | .objectEntry _ _ _ _ :: _, none => '0' :: closers stack
  | _, _ => closers stack

/-- the closing bracket of the frame that awaits a value may follow that value -/
theorem followOK_closers {k : List StackItem} {ctx : Ctx} (hk : awaits k = some ctx) :
    FollowOK ctx (closers k) := by
  match k, hk with
  | [], _ => exact followOK_nil _
  | .arrayItem _ _ :: _, rfl => intro c r h; cases h; decide
  | .objectEntry _ _ _ _ :: _, rfl => intro c r h; cases h; decide

theorem zcomp_awaits {k : List StackItem} {ctx : Ctx} (hk : awaits k = some ctx) :
    zcomp k none = '0' :: closers k := by
  match k, hk with
  | [], _ => rfl
  | .arrayItem _ _ :: _, _ => rfl
  | .objectEntry _ _ _ _ :: _, _ => rfl

/-- with a value pending, or a separator awaited, `zcomp` is just the closing brackets -/
theorem zcomp_closers {k : List StackItem} {value : Option JValue}
    (h : value.isSome ∨ awaits k = none) : zcomp k value = closers k := by
  cases value with
  | some v => cases k with
    | nil => rfl
    | cons it k => cases it <;> rfl
  | none =>
    obtain h | h := h
    · cases h
    · match k, h with
      | .array _ _ :: _, _ => rfl
      | .object _ _ :: _, _ => rfl

theorem run_closers (o : ParseOptions) : ∀ (k : List StackItem) (value : Option JValue) (t : PS),
    value.isSome ∨ awaits k = none → StackOk t.cm.size k → t.bad = false → t.rest = closers k →
    ∃ res, run o k value t = .ok res := by
  intro k
  induction k with
  | nil =>
    intro value t hv _ hb hr
    -- no `none` case: `awaits [] ≠ none`
    match value, hv with
    | some v, _ =>
      obtain ⟨t', h1, p1, _⟩ := skipWs_complete (w := []) (r := []) hr .nil noWsHead_nil hb
      exact ⟨(v, t'), (run_halt .finish).trans (finish_ok.2 ⟨h1, p1.rest, rfl⟩)⟩
  | cons item k ih =>
    have harr : ∀ (a : List JValue) (i : Nat) (value : Option JValue) (t : PS),
        i < t.cm.size → StackOk t.cm.size k → t.bad = false → t.rest = ']' :: closers k →
        ∃ res, run o (.array a i :: k) value t = .ok res := by
      intro a i value t hi hk hb hr
      obtain ⟨t', h1, p1⟩ := contArray_end_complete (w := []) hr .nil hb hi
      rw [run_goto (.arr h1)]
      exact ih _ t' (.inl rfl) (StackOk.mono p1.cm hk) (p1.bad_false hb) p1.rest
    have hobj : ∀ (es : List JEntry) (i : Nat) (value : Option JValue) (t : PS),
        i < t.cm.size → StackOk t.cm.size k → t.bad = false → t.rest = '}' :: closers k →
        ∃ res, run o (.object es i :: k) value t = .ok res := by
      intro es i value t hi hk hb hr
      obtain ⟨t', h1, p1⟩ := Len.contObject_end_complete (o := o) (w := []) hr .nil hb hi
      rw [run_goto (.obj h1)]
      exact ih _ t' (.inl rfl) (StackOk.mono p1.cm hk) (p1.bad_false hb) p1.rest
    intro value t hv hok hb hr
    -- `hv` excludes `arrayItem` / `objectEntry` with `none`: they await a value
    match item, value, hv with
    | .array a i, value, _ => exact harr a i value t hok.1 hok.2 hb hr
    | .object es i, value, _ => exact hobj es i value t hok.1 hok.2 hb hr
    | .arrayItem a i, some v, _ => rw [run_goto .item]; exact harr _ i none t hok.1 hok.2 hb hr
    | .objectEntry es i key e, some v, _ =>
      obtain ⟨t', h1, p1⟩ := endFragment_complete hok.2.1
      rw [run_goto (.entry h1)]
      exact hobj _ i none t' (p1.lt hok.1) (StackOk.mono p1.cm hok.2.2)
        (p1.bad_false hb) (p1.rest ▸ hr)

theorem run_close : ∀ (stack : List StackItem) (value : Option JValue) (t : PS),
    StackOk t.cm.size stack → t.bad = false → t.rest = zcomp stack value →
    ∃ res, run allOpts stack value t = .ok res := by
  intro k value t hok hb hr
  cases h : awaits k with
  | none => exact run_closers _ k value t (.inr h) hok hb (zcomp_closers (.inr h) ▸ hr)
  | some ctx =>
    cases value with
    | some v => exact run_closers _ k _ t (.inl rfl) hok hb ((zcomp_closers (value := some v) (.inl rfl)) ▸ hr)
    | none =>
      -- a value is awaited: read the `0`, then close
      obtain ⟨t', h1, p1⟩ := Len.parseFragment_leaf_complete (w := []) (.number _ gnumber_zero) trivial
        (hr.trans (zcomp_awaits h)) .nil (followOK_closers h) hb
      rw [run_goto (.frag h h1)]
      exact run_closers _ k _ t' (.inl rfl) (StackOk.mono p1.cm hok) (p1.bad_false hb) p1.rest

end JsonVerif
