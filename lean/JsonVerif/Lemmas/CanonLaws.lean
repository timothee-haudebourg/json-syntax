import JsonVerif.Model.Canon
import JsonVerif.Lemmas.OrderLaws
/-!
# The sort order of canonicalization (UTF-16 key, then value) is a total order on entries, so sorting
# gives one result for each multiset of entries (C09, C10)
-/
namespace JsonVerif

theorem cmpNats_isLex : IsLex cmpNat cmpNats := ⟨rfl, fun _ _ => rfl, fun _ _ => rfl, fun _ _ _ _ => rfl⟩

theorem cmpNats_refl (a) : cmpNats a a = .eq := cmpNats_isLex.refl fun _ _ => cmpNat_refl _
theorem cmpNats_eq {a b} : cmpNats a b = .eq → a = b := cmpNats_isLex.eq fun _ _ _ => cmpNat_eq
theorem cmpNats_swap (a b) : cmpNats b a = (cmpNats a b).swap :=
  cmpNats_isLex.swap _ fun _ _ _ => cmpNat_swap _ _
theorem cmpNats_trans {a b c} : cmpNats a b = .lt → cmpNats b c = .lt → cmpNats a c = .lt :=
  cmpNats_isLex.trans (fun _ _ => cmpNat_eq) fun _ _ _ _ => cmpNat_trans

/-- the code units of a scalar value can be read back off the front of a sequence: one unit
    outside the surrogate range, or a high and a low surrogate (a `Char` is never a surrogate) -/
theorem utf16Units_append_inj {c d : Char} {r s : List Nat}
    (h : utf16Units c ++ r = utf16Units d ++ s) : c = d ∧ r = s := by
  have vc : c.toNat < 0xD800 ∨ 0xDFFF < c.toNat ∧ c.toNat < 0x110000 := c.valid
  have vd : d.toNat < 0xD800 ∨ 0xDFFF < d.toNat ∧ d.toNat < 0x110000 := d.valid
  unfold utf16Units at h
  split at h <;> split at h <;>
    simp only [List.cons_append, List.nil_append, List.cons.injEq] at h
  · exact ⟨Char.toNat_inj.mp h.1, h.2⟩
  -- one unit against two: it would be a high surrogate, D800..DBFF
  · omega
  · omega
  -- two units against two: equal quotients and remainders by 1024 of `toNat - 0x10000`
  · exact ⟨Char.toNat_inj.mp (by omega), h.2.2⟩

theorem utf16Units_ne_nil (c : Char) : utf16Units c ≠ [] := by
  unfold utf16Units
  split <;> exact List.cons_ne_nil _ _

theorem utf16_inj : ∀ {a b : List Char}, utf16 a = utf16 b → a = b
  | [], [], _ => rfl
  | [], d :: _, h => by
    rw [utf16, utf16, List.flatMap_nil, List.flatMap_cons] at h
    exact absurd (List.append_eq_nil_iff.mp h.symm).1 (utf16Units_ne_nil d)
  | c :: _, [], h => by
    rw [utf16, utf16, List.flatMap_nil, List.flatMap_cons] at h
    exact absurd (List.append_eq_nil_iff.mp h).1 (utf16Units_ne_nil c)
  | c :: r, d :: s, h => by
    rw [utf16, utf16, List.flatMap_cons, List.flatMap_cons] at h
    have ⟨e, hr⟩ := utf16Units_append_inj h
    rw [e, utf16_inj (a := r) (b := s) hr]

/-- the key order of canonicalization: by UTF-16 code units. It is named so that the entry order
    can be given to the `pairCmp` lemmas: `canonEntryCmp` unfolds to `pairCmp utf16Cmp JValue.cmp`. -/
abbrev utf16Cmp (k l : List Char) : Ordering := cmpNats (utf16 k) (utf16 l)

theorem canonEntryCmp_refl (a : List Char × JValue) : canonEntryCmp a a = .eq :=
  pairCmp_refl (c := utf16Cmp) (cmpNats_refl _) (cmp_refl _)

theorem canonEntryCmp_eq {a b : List Char × JValue} : canonEntryCmp a b = .eq → a = b :=
  pairCmp_eq (c := utf16Cmp) (fun h => utf16_inj (cmpNats_eq h)) cmp_eq

theorem canonEntryCmp_swap (a b : List Char × JValue) :
    canonEntryCmp b a = (canonEntryCmp a b).swap :=
  pairCmp_swap (c := utf16Cmp) (cmpNats_swap _ _) (cmp_swap _ _)

theorem canonEntryCmp_trans {a b c : List Char × JValue} :
    canonEntryCmp a b = .lt → canonEntryCmp b c = .lt → canonEntryCmp a c = .lt :=
  pairCmp_trans (c := utf16Cmp) (fun _ _ h => utf16_inj (cmpNats_eq h)) cmpNats_trans cmp_trans

theorem canonEntryLe_iff {a b : List Char × JValue} : canonEntryLe a b = true ↔ canonEntryCmp a b ≠ .gt :=
  bne_iff_ne

theorem canonEntryLe_total (a b : List Char × JValue) : (canonEntryLe a b || canonEntryLe b a) = true := by
  simp only [Bool.or_eq_true, canonEntryLe_iff]; exact notGt_total canonEntryCmp_swap a b

theorem canonEntryLe_trans (a b c : List Char × JValue)
    (h1 : canonEntryLe a b = true) (h2 : canonEntryLe b c = true) : canonEntryLe a c = true := by
  rw [canonEntryLe_iff] at *; exact notGt_trans canonEntryCmp_eq canonEntryCmp_trans h1 h2

theorem canonEntryLe_antisymm (a b : List Char × JValue)
    (h1 : canonEntryLe a b = true) (h2 : canonEntryLe b a = true) : a = b := by
  rw [canonEntryLe_iff] at *; exact notGt_antisymm canonEntryCmp_eq canonEntryCmp_swap h1 h2

/-! `sortCanon` stands for `mergeSort canonEntryLe`, the sort `canon` applies to the entries. -/

theorem sortCanon_sorted (l : List (List Char × JValue)) :
    (l.mergeSort canonEntryLe).Pairwise (fun a b => canonEntryLe a b = true) :=
  List.pairwise_mergeSort canonEntryLe_trans canonEntryLe_total l

theorem sortCanon_perm_eq {l l' : List (List Char × JValue)} (h : l.Perm l') :
    l.mergeSort canonEntryLe = l'.mergeSort canonEntryLe :=
  List.Perm.eq_of_pairwise (fun a b _ _ => canonEntryLe_antisymm a b) (sortCanon_sorted l)
    (sortCanon_sorted l') (((List.mergeSort_perm l _).trans h).trans (List.mergeSort_perm l' _).symm)

end JsonVerif
