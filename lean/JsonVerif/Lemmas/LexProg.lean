import JsonVerif.Lemmas.Lex
/-!
# The frame properties of every lexer

A further notion `N` of this kind needs the rules of Lemmas/Lex.lean for `N` (`pure`, `bind`, `ite`,
`peekC`, `peek`, `unexpectedHere`, `next`, `reserve`, `skipWs`, `endFragment`, `numScan`, `strScan`;
the rules for `expectChar(s)` and the sub-programs are then those of `WB` with the name replaced, and
so are the lines below). Outside `namespace Lex` write `Lex.bind_ok`: the root namespace has a
`bind_ok` of its own.
-/
namespace JsonVerif
open Lex

namespace Lex

theorem WB.lexNumber (ctx : Ctx) : WB (lexNumber ctx) := lexNumber_eq ctx ▸
  .bind .reserve fun i => .bind (.numScan ctx) fun n => .close i n

theorem WB.lexString (o : ParseOptions) : WB (lexString o) := lexString_eq o ▸
  .bind .reserve fun i => .peekC fun _ =>
    .ite (.bind .next fun _ => .bind (.strScan o) fun str => .close i str) .unexpectedHere

theorem WB.lexNull : WB (Lex.lift lexNull) := lexNull_eq ▸
  .bind .reserve fun i => .literal _ i ()

theorem WB.lexBool : WB lexBool := lexBool_eq ▸
  .bind .reserve fun i => .peekC fun _ =>
    .ite (.literal _ i true) <| .ite (.literal _ i false) .unexpectedHere

theorem WB.lexKeyColon (o : ParseOptions) : WB (ofTriple (lexKeyColon o)) := lexKeyColon_eq o ▸
  .bind .reserve fun _ => .bind (.lexString o) fun _ => .bind .skipWs fun _ =>
    .bind (.expectChar _) fun _ => .pure _

theorem WB.startArray : WB startArray := startArray_eq ▸ .opener fun _ => .pure _

theorem WB.startObjectKey (o : ParseOptions) (i : Nat) : WB (startObjectKey o i) :=
  startObjectKey_eq o i ▸ .bind (.lexKeyColon o) fun _ => .pure _

theorem WB.startObject (o : ParseOptions) : WB (startObject o) :=
  startObject_eq o ▸ .opener (.startObjectKey o)

theorem WB.parseFragment (o : ParseOptions) (ctx : Ctx) : WB (parseFragment o ctx) :=
  parseFragment_eq o ctx ▸
  .bind .skipWs fun _ => .peekC fun _ =>
    .ite (.bind .lexNull fun _ => .pure _) <| .ite (.bind .lexBool fun _ => .pure _) <|
    .ite (.bind (.lexNumber ctx) fun _ => .pure _) <| .ite (.bind (.lexString o) fun _ => .pure _) <|
    .ite .startArray <| .ite (.startObject o) .unexpectedHere

theorem WB.contArray (i : Nat) : WB (contArray i) := contArray_eq i ▸
  .bind .skipWs fun _ => .peekC fun _ =>
    .ite (.bind .next fun _ => .pure _) <| .ite (.closer i _) .unexpectedHere

theorem WB.contObject (o : ParseOptions) (i : Nat) : WB (contObject o i) := contObject_eq o i ▸
  .bind .skipWs fun _ => .peekC fun _ =>
    .ite (.bind .next fun _ => .bind .skipWs fun _ => .bind (.lexKeyColon o) fun _ => .pure _) <|
    .ite (.closer i _) .unexpectedHere

end Lex

/-- A successful `parseFragment` is `skipWs` followed by exactly one of the six token lexers; which
    first character chose it never matters to a property of the result. -/
inductive FragOk (o : ParseOptions) (ctx : Ctx) (s0 : PS) : Fragment → PS → Prop
  | null {s'} : lexNull s0 = .ok s' → FragOk o ctx s0 (.value .null) s'
  | bool {b s'} : lexBool s0 = .ok (b, s') → FragOk o ctx s0 (.value (.bool b)) s'
  | number {n s'} : lexNumber ctx s0 = .ok (n, s') → FragOk o ctx s0 (.value (.number n)) s'
  | string {str s'} : lexString o s0 = .ok (str, s') → FragOk o ctx s0 (.value (.string str)) s'
  | array {f s'} : startArray s0 = .ok (f, s') → FragOk o ctx s0 f s'
  | object {f s'} : startObject o s0 = .ok (f, s') → FragOk o ctx s0 f s'

theorem parseFragment_ok_inv {o : ParseOptions} {ctx : Ctx} {s : PS} {f : Fragment} {s' : PS}
    (h : parseFragment o ctx s = .ok (f, s')) : ∃ s0, skipWs s = .ok s0 ∧ FragOk o ctx s0 f s' := by
  rw [parseFragment_eq] at h
  obtain ⟨_, s0, h0, h⟩ := Lex.bind_ok.1 h
  obtain ⟨_, _, _, h⟩ := peekC_ok.1 h
  refine ⟨s0, lift_ok.1 h0, ?_⟩
  rcases ite_eq.1 h with ⟨_, h⟩ | ⟨_, h⟩
  · obtain ⟨_, _, h1, h⟩ := Lex.bind_ok.1 h
    cases pure_ok.1 h; exact .null (lift_ok.1 h1)
  rcases ite_eq.1 h with ⟨_, h⟩ | ⟨_, h⟩
  · obtain ⟨_, _, h1, h⟩ := Lex.bind_ok.1 h
    cases pure_ok.1 h; exact .bool h1
  rcases ite_eq.1 h with ⟨_, h⟩ | ⟨_, h⟩
  · obtain ⟨_, _, h1, h⟩ := Lex.bind_ok.1 h
    cases pure_ok.1 h; exact .number h1
  rcases ite_eq.1 h with ⟨_, h⟩ | ⟨_, h⟩
  · obtain ⟨_, _, h1, h⟩ := Lex.bind_ok.1 h
    cases pure_ok.1 h; exact .string h1
  rcases ite_eq.1 h with ⟨_, h⟩ | ⟨_, h⟩
  · exact .array h
  rcases ite_eq.1 h with ⟨_, h⟩ | ⟨_, h⟩
  · exact .object h
  · cases h

/-! The fields of `WB.X` that other files use, by name. `expectChar_local` and the three `X_local_err`
    have no user: the machine gets the error half of locality from `WB` itself (`Halt.wb`); they are
    stated as results, and the C07 check names this file. -/

theorem expectChar_adv {c : Char} {s s' : PS} (h : expectChar c s = .ok s') : Adv s s' :=
  (WB.expectChar c).adv (lift_ok.2 h)

theorem expectChar_local {d : Char} {s s1 : PS} {l x : List Char} (hs : s.rest = l ++ x)
    (h : expectChar d s = .ok s1) (hlt : s1.pos < s.pos + utf8Len l) :
    ∃ r, s1.rest = r ++ x ∧ ∀ y, expectChar d (s.re (l ++ y)) = .ok (s1.re (r ++ y)) :=
  let ⟨r, hr, hy⟩ := (WB.expectChar d).loc hs (lift_ok.2 h) hlt
  ⟨r, hr, fun y => lift_ok.1 (hy y)⟩

theorem lexNull_adv {s s' : PS} (h : lexNull s = .ok s') : Adv s s' := WB.lexNull.adv (lift_ok.2 h)

theorem lexNumber_adv {ctx : Ctx} {s : PS} {n : List Char} {s' : PS}
    (h : lexNumber ctx s = .ok (n, s')) : Adv s s' := (WB.lexNumber ctx).adv h

theorem lexString_adv {o : ParseOptions} {s : PS} {str : List Char} {s' : PS}
    (h : lexString o s = .ok (str, s')) : Adv s s' := (WB.lexString o).adv h

theorem lexBool_adv {s : PS} {b : Bool} {s' : PS} (h : lexBool s = .ok (b, s')) : Adv s s' :=
  WB.lexBool.adv h

theorem lexKeyColon_adv {o : ParseOptions} {s : PS} {k : List Char} {e : Nat} {s' : PS}
    (h : lexKeyColon o s = .ok (k, e, s')) : Adv s s' := (WB.lexKeyColon o).adv (ofTriple_ok.2 h)

theorem parseFragment_adv {o : ParseOptions} {ctx : Ctx} {s : PS} {f : Fragment} {s' : PS}
    (h : parseFragment o ctx s = .ok (f, s')) : Adv s s' := (WB.parseFragment o ctx).adv h

theorem parseFragment_local {o : ParseOptions} {ctx : Ctx} {s s1 : PS} {f : Fragment} {l x : List Char}
    (hs : s.rest = l ++ x) (h : parseFragment o ctx s = .ok (f, s1)) (hlt : s1.pos < s.pos + utf8Len l) :
    ∃ r, s1.rest = r ++ x ∧ ∀ y, parseFragment o ctx (s.re (l ++ y)) = .ok (f, s1.re (r ++ y)) :=
  (WB.parseFragment o ctx).loc hs h hlt

theorem parseFragment_local_err {o : ParseOptions} {ctx : Ctx} {s : PS} {l x : List Char} {q : Nat} {c : Char}
    (hs : s.rest = l ++ x) (h : parseFragment o ctx s = .error (.unexpected q (some c)))
    (hlt : q < s.pos + utf8Len l) :
    ∀ y, parseFragment o ctx (s.re (l ++ y)) = .error (.unexpected q (some c)) :=
  (WB.parseFragment o ctx).loc_err hs h hlt

theorem contArray_adv {i : Nat} {s : PS} {c : ArrCont} {s' : PS}
    (h : contArray i s = .ok (c, s')) : Adv s s' := (WB.contArray i).adv h

theorem contArray_local {i : Nat} {s s1 : PS} {k : ArrCont} {l x : List Char} (hs : s.rest = l ++ x)
    (h : contArray i s = .ok (k, s1)) (hlt : s1.pos < s.pos + utf8Len l) :
    ∃ r, s1.rest = r ++ x ∧ ∀ y, contArray i (s.re (l ++ y)) = .ok (k, s1.re (r ++ y)) :=
  (WB.contArray i).loc hs h hlt

theorem contArray_local_err {i : Nat} {s : PS} {l x : List Char} {q : Nat} {c : Char} (hs : s.rest = l ++ x)
    (h : contArray i s = .error (.unexpected q (some c))) (hlt : q < s.pos + utf8Len l) :
    ∀ y, contArray i (s.re (l ++ y)) = .error (.unexpected q (some c)) :=
  (WB.contArray i).loc_err hs h hlt

theorem contObject_adv {o : ParseOptions} {i : Nat} {s : PS} {c : ObjCont} {s' : PS}
    (h : contObject o i s = .ok (c, s')) : Adv s s' := (WB.contObject o i).adv h

theorem contObject_local {o : ParseOptions} {i : Nat} {s s1 : PS} {k : ObjCont} {l x : List Char}
    (hs : s.rest = l ++ x) (h : contObject o i s = .ok (k, s1)) (hlt : s1.pos < s.pos + utf8Len l) :
    ∃ r, s1.rest = r ++ x ∧ ∀ y, contObject o i (s.re (l ++ y)) = .ok (k, s1.re (r ++ y)) :=
  (WB.contObject o i).loc hs h hlt

theorem contObject_local_err {o : ParseOptions} {i : Nat} {s : PS} {l x : List Char} {q : Nat} {c : Char}
    (hs : s.rest = l ++ x) (h : contObject o i s = .error (.unexpected q (some c)))
    (hlt : q < s.pos + utf8Len l) :
    ∀ y, contObject o i (s.re (l ++ y)) = .error (.unexpected q (some c)) :=
  (WB.contObject o i).loc_err hs h hlt

end JsonVerif
