import JsonVerif.Lemmas.CanonLaws
import JsonVerif.Lemmas.PermEqLaws
/-! # Canonical form: sorted at every depth, idempotent, blind to member order (C09 structure, C10) -/
namespace JsonVerif

theorem canonM_eq_map (nc : List Char → List Char) :
    ∀ es, canonM nc es = es.map (fun e => (e.1, canon nc e.2))
  | [] => rfl
  | (k, x) :: es => by simp [canonM, canonM_eq_map nc es]

theorem canonL_eq_map (nc : List Char → List Char) : ∀ xs, canonL nc xs = xs.map (canon nc)
  | [] => rfl
  | x :: xs => by simp [canonL, canonL_eq_map nc xs]

-- "members sorted by UTF-16 key order at every level"
mutual
def AllSorted : JValue → Prop
  | .array xs => AllSortedL xs
  | .object es => es.Pairwise (fun a b => canonEntryLe a b = true) ∧ AllSortedM es
  | _ => True
def AllSortedL : List JValue → Prop
  | [] => True
  | x :: xs => AllSorted x ∧ AllSortedL xs
def AllSortedM : List (List Char × JValue) → Prop
  | [] => True
  | (_, x) :: es => AllSorted x ∧ AllSortedM es
end

theorem allSortedM_iff : ∀ {es : List (List Char × JValue)}, AllSortedM es ↔ ∀ e ∈ es, AllSorted e.2
  | [] => by simp [AllSortedM]
  | (k, x) :: es => by rw [AllSortedM, allSortedM_iff, List.forall_mem_cons]

mutual
theorem canon_allSorted (nc : List Char → List Char) : ∀ v, AllSorted (canon nc v)
  | .null => trivial
  | .bool _ => trivial
  | .number _ => trivial
  | .string _ => trivial
  | .array xs => canonL_allSorted nc xs
  | .object es => by
    refine ⟨sortCanon_sorted _, allSortedM_iff.mpr fun e he => ?_⟩
    exact allSortedM_iff.mp (canonM_allSorted nc es) e (List.mem_mergeSort.mp he)
theorem canonL_allSorted (nc : List Char → List Char) : ∀ xs, AllSortedL (canonL nc xs)
  | [] => trivial
  | x :: xs => ⟨canon_allSorted nc x, canonL_allSorted nc xs⟩
theorem canonM_allSorted (nc : List Char → List Char) : ∀ es, AllSortedM (canonM nc es)
  | [] => trivial
  | (_, x) :: es => ⟨canon_allSorted nc x, canonM_allSorted nc es⟩
end

mutual
def NumsFixed (nc : List Char → List Char) : JValue → Prop
  | .number n => nc n = n
  | .array xs => NumsFixedL nc xs
  | .object es => NumsFixedM nc es
  | _ => True
def NumsFixedL (nc : List Char → List Char) : List JValue → Prop
  | [] => True
  | x :: xs => NumsFixed nc x ∧ NumsFixedL nc xs
def NumsFixedM (nc : List Char → List Char) : List (List Char × JValue) → Prop
  | [] => True
  | (_, x) :: es => NumsFixed nc x ∧ NumsFixedM nc es
end

theorem numsFixedM_iff {nc : List Char → List Char} :
    ∀ {es : List (List Char × JValue)}, NumsFixedM nc es ↔ ∀ e ∈ es, NumsFixed nc e.2
  | [] => by simp [NumsFixedM]
  | (k, x) :: es => by rw [NumsFixedM, numsFixedM_iff, List.forall_mem_cons]

mutual
theorem canon_numsFixed (nc : List Char → List Char) (hnc : ∀ n, nc (nc n) = nc n) :
    ∀ v, NumsFixed nc (canon nc v)
  | .null => trivial
  | .bool _ => trivial
  | .number n => hnc n
  | .string _ => trivial
  | .array xs => canonL_numsFixed nc hnc xs
  | .object es => by
    refine numsFixedM_iff.mpr fun e he => ?_
    exact numsFixedM_iff.mp (canonM_numsFixed nc hnc es) e (List.mem_mergeSort.mp he)
theorem canonL_numsFixed (nc : List Char → List Char) (hnc : ∀ n, nc (nc n) = nc n) :
    ∀ xs, NumsFixedL nc (canonL nc xs)
  | [] => trivial
  | x :: xs => ⟨canon_numsFixed nc hnc x, canonL_numsFixed nc hnc xs⟩
theorem canonM_numsFixed (nc : List Char → List Char) (hnc : ∀ n, nc (nc n) = nc n) :
    ∀ es, NumsFixedM nc (canonM nc es)
  | [] => trivial
  | (_, x) :: es => ⟨canon_numsFixed nc hnc x, canonM_numsFixed nc hnc es⟩
end

mutual
theorem canon_fixed (nc : List Char → List Char) :
    ∀ v, AllSorted v → NumsFixed nc v → canon nc v = v
  | .null, _, _ => rfl
  | .bool _, _, _ => rfl
  | .number n, _, h => by rw [canon, h]
  | .string _, _, _ => rfl
  | .array xs, hs, hn => by rw [canon, canonL_fixed nc xs hs hn]
  | .object es, hs, hn => by
    rw [canon, canonM_fixed nc es hs.2 hn, List.mergeSort_of_pairwise hs.1]
theorem canonL_fixed (nc : List Char → List Char) :
    ∀ xs, AllSortedL xs → NumsFixedL nc xs → canonL nc xs = xs
  | [], _, _ => rfl
  | x :: xs, hs, hn => by
    rw [canonL, canon_fixed nc x hs.1 hn.1, canonL_fixed nc xs hs.2 hn.2]
theorem canonM_fixed (nc : List Char → List Char) :
    ∀ es, AllSortedM es → NumsFixedM nc es → canonM nc es = es
  | [], _, _ => rfl
  | (k, x) :: es, hs, hn => by
    rw [canonM, canon_fixed nc x hs.1 hn.1, canonM_fixed nc es hs.2 hn.2]
end

theorem canon_idem (nc : List Char → List Char) (hnc : ∀ n, nc (nc n) = nc n) (v : JValue) :
    canon nc (canon nc v) = canon nc v :=
  canon_fixed nc _ (canon_allSorted nc v) (canon_numsFixed nc hnc v)

section
variable {nc : List Char → List Char}

theorem canonL_permEq_of {a b : List JValue} (h : PermEqL a b)
    (hc : ∀ x ∈ a, ∀ y, PermEq x y → canon nc x = canon nc y) : canonL nc a = canonL nc b := by
  induction a generalizing b with
  | nil => cases h; rfl
  | cons _ _ ih =>
    have ⟨h1, h2⟩ := List.forall_mem_cons.mp hc
    cases h with
    | cons hxy hr => rw [canonL, canonL, h1 _ hxy, ih hr h2]

theorem canonM_pw_of {a b : List Entry} (h : PW a b)
    (hc : ∀ e ∈ a, ∀ y, PermEq e.2 y → canon nc e.2 = canon nc y) : canonM nc a = canonM nc b := by
  induction h with
  | nil => rfl
  | cons hxy _ ih =>
    have ⟨h1, h2⟩ := List.forall_mem_cons.mp hc
    rw [canonM, canonM, h1 _ hxy, ih h2]

theorem canonM_perm_of {a b : List Entry} (h : PermEqM a b)
    (hc : ∀ e ∈ a, ∀ y, PermEq e.2 y → canon nc e.2 = canon nc y) :
    (canonM nc a).Perm (canonM nc b) := by
  have ⟨b', hpw, hp⟩ := h.toPW
  rw [canonM_pw_of hpw hc, canonM_eq_map, canonM_eq_map]
  exact hp.map _

end

theorem canon_permEq (nc : List Char → List Char) : ∀ {a b : JValue}, PermEq a b → canon nc a = canon nc b := by
  intro a
  induction a using JValue.ind <;> intro b h <;> cases h
  case array ih _ hl => rw [canon, canon, canonL_permEq_of hl ih]
  case object ih _ hm => rw [canon, canon, sortCanon_perm_eq (canonM_perm_of hm ih)]
  all_goals rfl

theorem canonL_permEq (nc : List Char → List Char) :
    ∀ {a b : List JValue}, PermEqL a b → canonL nc a = canonL nc b :=
  fun h => canonL_permEq_of h fun _ _ _ => canon_permEq nc
theorem canonM_permEq (nc : List Char → List Char) :
    ∀ {a b : List (List Char × JValue)}, PermEqM a b → (canonM nc a).Perm (canonM nc b) :=
  fun h => canonM_perm_of h fun _ _ _ => canon_permEq nc

end JsonVerif
