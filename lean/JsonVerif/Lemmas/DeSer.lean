import JsonVerif.Lemmas.DeNum
import JsonVerif.Lemmas.DeStruct
import JsonVerif.Spec.HasTy
/-!
# The round trip `de ty (ser d) = d` for every well-typed datum

`de_ser` by recursion on the descriptor, from the round trips of integers, keys and variants. Last,
`KeysOk` from what a Rust map guarantees: `serKey` is injective on the data of a key type.
-/
namespace JsonVerif

theorem int_rt (w : IntW) (i : Int) (h1 : w.lo ≤ i) (h2 : i ≤ w.hi) :
    ∃ n, ser (w.mk i) = .ok (.number n) ∧ intVisit w n = .ok (w.mk i) := by
  have hb := IntW.bounds w
  cases hs : w.signed with
  | true =>
    refine ⟨intText i, by simp only [IntW.mk, hs, ser, if_true], ?_⟩
    cases i with
    | ofNat n =>
      have h2' : (n : Int) ≤ w.hi := h2
      have hn : n < 2 ^ 64 := by omega
      simp only [intVisit, intText_ofNat, numEvent_natText n hn]
      rw [if_pos h2']
      rfl
    | negSucc m =>
      simp only [intVisit, numEvent_neg m (by omega)]
      rw [if_pos ⟨h1, h2⟩]
  | false =>
    have hn : i.toNat < 2 ^ 64 := by omega
    refine ⟨natText i.toNat, by simp only [IntW.mk, hs, ser, Bool.false_eq_true, if_false], ?_⟩
    simp only [intVisit, numEvent_natText _ hn]
    rw [if_pos (by omega)]
    simp only [IntW.mk, hs, Bool.false_eq_true, ↓reduceIte, Int.toNat_natCast]

/-- an integer map key: `to_string`, then `str::parse` -/
theorem intKey_rt (w : IntW) (i : Int) (h1 : w.lo ≤ i) (h2 : i ≤ w.hi) :
    ∃ n, serKey (w.mk i) = .ok n ∧ deKey (.int w) n = .ok (w.mk i) := by
  cases hs : w.signed with
  | true =>
    refine ⟨intText i, by simp [IntW.mk, hs, serKey], ?_⟩
    have : parseIntR true (intText i) = some i := by
      cases i with
      | ofNat n => rw [intText_ofNat]; exact parseIntR_natText true n
      | negSucc m => exact parseIntR_neg m
    simp [deKey, parseKeyInt, hs, this, h1, h2]
  | false =>
    have hl := IntW.lo_unsigned w hs
    refine ⟨natText i.toNat, by simp [IntW.mk, hs, serKey], ?_⟩
    have hi : ((i.toNat : Nat) : Int) = i := by omega
    simp only [deKey, parseKeyInt, hs, parseIntR_natText, hi]
    rw [if_pos ⟨h1, h2⟩]

theorem key_rt : ∀ (k : KTy) (kd : SData), HasKey k kd →
    ∃ n, serKey kd = .ok n ∧ deKey k n = .ok kd
  | .str, kd, h => by
    obtain ⟨s, rfl⟩ := h
    exact ⟨s, rfl, rfl⟩
  | .int w, kd, h => by
    obtain ⟨i, h1, h2, rfl⟩ := h
    exact intKey_rt w i h1 h2
  | .char, kd, h => by
    obtain ⟨c, rfl⟩ := h
    exact ⟨[c], rfl, rfl⟩
  | .unitEnum names, kd, h => by
    obtain ⟨v, rfl, hv⟩ := h
    refine ⟨v, rfl, ?_⟩
    simp [deKey, hv]
  | .newtype k, kd, h => by
    obtain ⟨x, rfl, hx⟩ := h
    obtain ⟨n, h1, h2⟩ := key_rt k x hx
    exact ⟨n, by simpa [serKey] using h1, by simp [deKey, h2]⟩

/-- the round trip of an enum datum `d` through the variant list `vs` (`de_serV` states it unfolded):
    `to_value` writes the variant's name, alone or as the key of a single-entry object, and the
    variant visitor reads `d` back from it -/
def VariantRt (env : FEnv) (vs : List (List Char × DTy)) (d : SData) : Prop :=
  ∃ k v, variantOf d = some k ∧ ser d = .ok v ∧
    ((v = .string k ∧ deVariant env vs k none = .ok d) ∨
     (∃ x, v = .object [(k, x)] ∧ deVariant env vs k (some x) = .ok d))

/-- a variant of another name in front changes nothing -/
theorem variant_skip (env : FEnv) (n : List Char) (p : DTy) (vs : List (List Char × DTy)) (d : SData)
    (hne : variantOf d ≠ some n) (ih : VariantRt env vs d) : VariantRt env ((n, p) :: vs) d := by
  obtain ⟨k, v, hk, hs, hv⟩ := ih
  have hnk : (n == k) = false := beq_eq_false_iff_ne.mpr fun e => hne (e ▸ hk)
  refine ⟨k, v, hk, hs, ?_⟩
  rcases hv with ⟨rfl, hd⟩ | ⟨x, rfl, hd⟩
  · exact Or.inl ⟨rfl, by rw [deVariant_skip env n p vs k none hnk, hd]⟩
  · exact Or.inr ⟨x, rfl, by rw [deVariant_skip env n p vs k (some x) hnk, hd]⟩

theorem fields_names : ∀ (env : FEnv) (fs : List (List Char × DTy)) (l : List (List Char × SData)),
    HasTyF env fs l → l.map (·.1) = fs.map (·.1)
  | _, [], l, h => by cases h; rfl
  | env, (n, t) :: fs, l, h => by
    obtain ⟨y, ys, rfl, _, hr⟩ := h
    simp only [List.map_cons, fields_names env fs ys hr]

section
variable {env : FEnv} {t : DTy} (rt : ∀ x, HasTy env t x → ∃ v, ser x = .ok v ∧ de env t v = .ok x)
include rt

theorem seq_rt : ∀ (xs : List SData), (∀ x ∈ xs, HasTy env t x) →
    ∃ vs, serL xs = .ok vs ∧ vs.map (de env t) = xs.map Except.ok := by
  intro xs
  induction xs with
  | nil => intro _; exact ⟨[], rfl, rfl⟩
  | cons x xs ih =>
    intro hx
    obtain ⟨v, hs, hd⟩ := rt x (hx x List.mem_cons_self)
    obtain ⟨vs, hs2, hd2⟩ := ih fun y hy => hx y (List.mem_cons_of_mem _ hy)
    exact ⟨v :: vs, by simp only [serL, hs, hs2], by simp only [List.map_cons, hd, hd2]⟩

theorem entries_rt {k : KTy} : ∀ (l : List (SData × SData)) (ns : List (List Char)),
    (∀ e ∈ l, HasKey k e.1 ∧ HasTy env t e.2) → l.map (fun e => serKey e.1) = ns.map Except.ok →
    ∃ vs, l.map (fun e => ser e.2) = vs.map Except.ok ∧
      (ns.zip vs).map (deEntry k (de env t)) = l.map Except.ok := by
  intro l
  induction l with
  | nil =>
    intro ns _ h
    cases ns with
    | nil => exact ⟨[], rfl, rfl⟩
    | cons _ _ => cases h
  | cons e l ih =>
    intro ns he hns
    cases ns with
    | nil => cases hns
    | cons n ns =>
      simp only [List.map_cons, List.cons.injEq] at hns
      obtain ⟨hk, hv⟩ := he e List.mem_cons_self
      obtain ⟨n', hn1, hn2⟩ := key_rt k e.1 hk
      obtain rfl : n' = n := Except.ok.inj (hn1.symm.trans hns.1)
      obtain ⟨v, hs, hd⟩ := rt e.2 hv
      obtain ⟨vs, hs2, hd2⟩ := ih ns (fun y hy => he y (List.mem_cons_of_mem _ hy)) hns.2
      exact ⟨v :: vs, by simp only [List.map_cons, hs, hs2],
        by simp only [List.zip_cons_cons, List.map_cons, deEntry, hn2, hd, hd2]⟩

end

mutual
theorem de_ser (env : FEnv) : ∀ (t : DTy) (d : SData), HasTy env t d →
    ∃ v, ser d = .ok v ∧ de env t v = .ok d := by
  intro t d h
  cases t with
  | bool | char | str =>
    obtain ⟨_, rfl⟩ := h
    exact ⟨_, rfl, rfl⟩
  | unit | unitStruct =>
    cases h
    exact ⟨_, rfl, rfl⟩
  | int w =>
    obtain ⟨i, h1, h2, rfl⟩ := h
    obtain ⟨n, hs, hv⟩ := int_rt w i h1 h2
    exact ⟨_, hs, by simpa only [de] using hv⟩
  | f32 | f64 =>
    obtain ⟨t, rfl, ht⟩ := h
    exact ⟨.number t, rfl, by simp only [de, ht]⟩
  | opt t =>
    rcases h with rfl | ⟨x, rfl, hx, hnn⟩
    · exact ⟨.null, rfl, rfl⟩
    · obtain ⟨v, hs, hd⟩ := de_ser env t x hx
      refine ⟨v, by simpa only [ser] using hs, ?_⟩
      rw [de_opt env t fun e => hnn (e ▸ hs), hd]
      rfl
  | newtype t =>
    obtain ⟨x, rfl, hx⟩ := h
    obtain ⟨v, hs, hd⟩ := de_ser env t x hx
    exact ⟨v, by simpa only [ser] using hs, by simp only [de, hd]⟩
  | seq t =>
    obtain ⟨xs, rfl, hxs⟩ := h
    obtain ⟨vs, hs, hd⟩ := seq_rt (de_ser env t) xs hxs
    exact ⟨.array vs, by simp only [ser, hs], by simp only [de, mapE_ok _ _ _ hd]⟩
  | tuple ts =>
    obtain ⟨xs, rfl, hxs⟩ := h
    obtain ⟨vs, hs, hd, _⟩ := de_serL env ts xs hxs
    exact ⟨.array vs, by simp only [ser, hs], by simp only [de, hd, seqDone, List.isEmpty_nil, if_true]⟩
  | map k t =>
    obtain ⟨l, rfl, hl, ns, hns, hnd, hnt⟩ := h
    obtain ⟨vs, hs, hd⟩ := entries_rt (de_ser env t) l ns hl hns
    refine ⟨.object (ns.zip vs), ?_, by simp only [de, mapE_ok _ _ _ hd]⟩
    exact serMap_typed l ns vs [] hns hs hnd hnt
  | struct fs =>
    obtain ⟨l, rfl, hl, hnd, hnt⟩ := h
    obtain ⟨vs, hs, hd⟩ := de_serF env fs l hl
    have hnames := fields_names env fs l hl
    refine ⟨.object ((fs.map (·.1)).zip vs), ?_, ?_⟩
    · rw [← hnames] at hnd hnt ⊢
      exact serFields_typed l vs [] hs hnd hnt
    · rw [de_struct_object, structVisit_typed env fs hnd _ l hnames hd]
  | enum vs =>
    obtain ⟨k, v, _, hs, hv⟩ := de_serV env vs d h
    refine ⟨v, hs, ?_⟩
    rcases hv with ⟨rfl, hd⟩ | ⟨x, rfl, hd⟩
    · simpa only [de] using hd
    · simpa only [de] using hd
-- third conjunct: for the tuple-variant arm of `de_serV`, where `deVariant` rejects an empty array
theorem de_serL (env : FEnv) : ∀ (ts : List DTy) (xs : List SData), HasTyL env ts xs →
    ∃ vs, serL xs = .ok vs ∧ deTuple env ts vs = .ok (xs, []) ∧ (ts ≠ [] → vs ≠ []) := by
  intro ts xs h
  cases ts with
  | nil => cases h; exact ⟨[], rfl, rfl, fun h => absurd rfl h⟩
  | cons t ts =>
    obtain ⟨y, ys, rfl, hy, hys⟩ := h
    obtain ⟨v, hs, hd⟩ := de_ser env t y hy
    obtain ⟨vs, hs2, hd2, _⟩ := de_serL env ts ys hys
    exact ⟨v :: vs, by simp only [serL, hs, hs2], by simp only [deTuple, hd, hd2],
      fun _ => List.cons_ne_nil _ _⟩
theorem de_serF (env : FEnv) : ∀ (fs : List (List Char × DTy)) (l : List (List Char × SData)),
    HasTyF env fs l →
    ∃ vs, l.map (fun f => ser f.2) = vs.map Except.ok ∧
      DeFields env fs ((fs.map (·.1)).zip vs) (l.map (·.2)) := by
  intro fs l h
  cases fs with
  | nil => cases h; exact ⟨[], rfl, rfl, rfl⟩
  | cons f fs =>
    obtain ⟨n, t⟩ := f
    obtain ⟨y, ys, rfl, hy, hys⟩ := h
    obtain ⟨v, hs, hd⟩ := de_ser env t y hy
    obtain ⟨vs, hs2, hd2⟩ := de_serF env fs ys hys
    exact ⟨v :: vs, by simp only [List.map_cons, hs, hs2], ⟨v, _, y, _, rfl, rfl, hd, hd2⟩⟩
theorem de_serV (env : FEnv) : ∀ (vs : List (List Char × DTy)) (d : SData), HasTyV env vs d →
    ∃ k v, variantOf d = some k ∧ ser d = .ok v ∧
      ((v = .string k ∧ deVariant env vs k none = .ok d) ∨
       (∃ x, v = .object [(k, x)] ∧ deVariant env vs k (some x) = .ok d)) := by
  intro vs d h
  cases vs with
  | nil => cases h
  | cons np vs =>
    obtain ⟨n, p⟩ := np
    have skip := fun hne hr => variant_skip env n p vs d hne (de_serV env vs d hr)
    -- `HasTyV` at `(n, p) :: vs` is a disjunction only once the kind of `p` is known
    cases p with
    | unit =>
      rcases h with h | ⟨hne, hr⟩
      · cases h
        exact ⟨n, .string n, rfl, rfl, Or.inl ⟨rfl, by simp only [deVariant, beq_self_eq_true, ↓reduceIte]⟩⟩
      · exact skip hne hr
    | newtype t =>
      rcases h with ⟨x, rfl, hx⟩ | ⟨hne, hr⟩
      · obtain ⟨v, hs, hd⟩ := de_ser env t x hx
        exact ⟨n, .object [(n, v)], rfl, by simp only [ser, hs],
          Or.inr ⟨v, rfl, by simp only [deVariant, beq_self_eq_true, ↓reduceIte, hd]⟩⟩
      · exact skip hne hr
    | tuple ts =>
      rcases h with ⟨xs, rfl, hxs, hne⟩ | ⟨hne, hr⟩
      · obtain ⟨ws, hs, hd, hnn⟩ := de_serL env ts xs hxs
        refine ⟨n, .object [(n, .array ws)], rfl, by simp only [ser, hs], Or.inr ⟨.array ws, rfl, ?_⟩⟩
        cases ws with
        | nil => exact absurd rfl (hnn hne)
        | cons w ws => simp only [deVariant, beq_self_eq_true, ↓reduceIte, hd, seqDone, List.isEmpty_nil]
      · exact skip hne hr
    | struct fs =>
      rcases h with ⟨l, rfl, hl, hnd⟩ | ⟨hne, hr⟩
      · obtain ⟨ws, hs, hd⟩ := de_serF env fs l hl
        have hnames := fields_names env fs l hl
        refine ⟨n, .object [(n, .object ((fs.map (·.1)).zip ws))], rfl, ?_, Or.inr ⟨_, rfl, ?_⟩⟩
        · simp only [ser, serFieldsPlain_typed l ws [] hs (hnames.symm ▸ hnd), hnames, List.nil_append]
        · rw [deVariant_struct_hit env (beq_self_eq_true n), structVisit_typed env fs hnd _ l hnames hd]
      · exact skip hne hr
    | _ =>
      rcases h with h | ⟨hne, hr⟩
      · exact h.elim
      · exact skip hne hr
end

/-- the key serializer is injective on the data of a key type: distinct keys are spelled differently
    (`deKey` reads either datum back from the common spelling) -/
theorem serKey_inj : ∀ (k : KTy) (a b : SData) (n : List Char), HasKey k a → HasKey k b →
    serKey a = .ok n → serKey b = .ok n → a = b := by
  intro k a b n ha hb h1 h2
  obtain ⟨na, ea, da⟩ := key_rt k a ha
  obtain ⟨nb, eb, db⟩ := key_rt k b hb
  cases ea.symm.trans h1
  cases eb.symm.trans h2
  exact Except.ok.inj (da.symm.trans db)

theorem keysOk_of_nodup (k : KTy) : ∀ (l : List (SData × SData)), (∀ e ∈ l, HasKey k e.1) →
    (l.map (·.1)).Pairwise (· ≠ ·) → (∀ e ∈ l, serKey e.1 ≠ .ok numberToken) → KeysOk l
  | [], _, _, _ => ⟨[], rfl, List.nodup_nil, by simp⟩
  | e :: l, hk, hnd, hnt => by
    obtain ⟨n, hn, _⟩ := key_rt k e.1 (hk e List.mem_cons_self)
    simp only [List.map_cons, List.pairwise_cons] at hnd
    obtain ⟨ns, h1, h2, h3⟩ := keysOk_of_nodup k l (fun x hx => hk x (List.mem_cons_of_mem _ hx)) hnd.2
      (fun x hx => hnt x (List.mem_cons_of_mem _ hx))
    refine ⟨n :: ns, by simp [hn, h1], ?_, ?_⟩
    · refine List.nodup_cons.2 ⟨?_, h2⟩
      intro hmem
      -- some later key is spelled `n` too: it is the same datum
      have hm : Except.ok n ∈ l.map (fun e => serKey e.1) := h1 ▸ List.mem_map_of_mem hmem
      obtain ⟨x, hx, hxe⟩ := List.mem_map.1 hm
      have heq := serKey_inj k e.1 x.1 n (hk e List.mem_cons_self) (hk x (List.mem_cons_of_mem _ hx)) hn hxe
      exact hnd.1 x.1 (List.mem_map.2 ⟨x, hx, rfl⟩) heq
    · intro hmem
      rcases List.mem_cons.1 hmem with h | h
      · exact hnt e List.mem_cons_self (by rw [hn, h])
      · exact h3 h

end JsonVerif
