import JsonVerif.Lemmas.RdInd
import JsonVerif.Lemmas.Step
/-!
# The explicit-stack machine computes the recursive-descent reference

For every stack `K` whose top expects a value, running the machine from `(K, none, s)` is the same
as computing the reference value at `s` and resuming the machine with that value delivered to `K`.
Hence `run [] none s = rdDocument …`: the iterative parser of src/parse/value.rs and the textbook
recursive parser agree on every input — value, code map, position, and error.
-/
namespace JsonVerif

/-- hand the reference's result to the stack `K` -/
def resume (o : ParseOptions) (K : List StackItem) (r : Except PErr (JValue × PS)) : Except PErr (JValue × PS) :=
  match r with
  | .error e => .error e
  | .ok (v, s') => run o K (some v) s'

theorem rd_len (o : ParseOptions) : ∀ n,
    (∀ ctx s v s', rdValue o n ctx s = .ok (v, s') → s'.rest.length < s.rest.length) ∧
    (∀ acc i s v s', rdItems o n acc i s = .ok (v, s') → s'.rest.length < s.rest.length) ∧
    (∀ acc i key e s v s', rdMembers o n acc i key e s = .ok (v, s') → s'.rest.length < s.rest.length) :=
  rd_ind (PV := fun _ s _ s' => s'.rest.length < s.rest.length)
    (PI := fun _ _ s _ s' => s'.rest.length < s.rest.length)
    (PM := fun _ _ _ _ s _ s' => s'.rest.length < s.rest.length)
    (leaf := parseFragment_len)
    (arr := fun hf h => Nat.lt_trans h (parseFragment_len hf))
    (obj := fun hf h => Nat.lt_trans h (parseFragment_len hf))
    (item := fun hv hc h => by have := contArray_len hc; omega)
    (last := fun hv hc => by have := contArray_len hc; omega)
    (entry := fun hv he hc h => by have := endFragment_len he; have := contObject_len hc; omega)
    (close := fun hv he hc => by have := endFragment_len he; have := contObject_len hc; omega)

/-- Two units of fuel for every unread character are enough for the reference: `rdItems (n + 1)`
    and `rdMembers (n + 1)` call `rdValue n` on the same state, and `rdValue (n + 1)` calls them at
    `n` only after `parseFragment` has consumed a character. The `+ 1` / `+ 2` are the levels entered
    before the first character is consumed. -/
theorem machine_rd (o : ParseOptions) : ∀ n,
    (∀ s K ctx, awaits K = some ctx → 2 * s.rest.length + 1 ≤ n →
        run o K none s = resume o K (rdValue o n ctx s)) ∧
    (∀ s K acc i ctx, awaits K = some ctx → 2 * s.rest.length + 2 ≤ n →
        run o (.arrayItem acc i :: K) none s = resume o K (rdItems o n acc i s)) ∧
    (∀ s K acc i key e ctx, awaits K = some ctx → 2 * s.rest.length + 2 ≤ n →
        run o (.objectEntry acc i key e :: K) none s = resume o K (rdMembers o n acc i key e s)) := by
  intro n
  induction n with
  | zero => refine ⟨?_, ?_, ?_⟩ <;> intros <;> omega
  | succ n ih =>
    obtain ⟨ihV, ihI, ihM⟩ := ih
    refine ⟨?_, ?_, ?_⟩
    · intro s K ctx hK hn
      rw [run_frag hK, rdValue]
      cases hf : parseFragment o ctx s with
      | error e => rfl
      | ok r =>
        obtain ⟨f, s'⟩ := r
        have := parseFragment_len hf
        cases f with
        | value v => rfl
        | beginArray i => exact ihI s' K [] _ ctx hK (by omega)
        | beginObject i key e => exact ihM s' K [] _ _ _ ctx hK (by omega)
    · intro s K acc i ctx hK hn
      rw [ihV s (.arrayItem acc i :: K) .array rfl (by omega), rdItems]
      cases h : rdValue o n Ctx.array s with
      | error e => rfl
      | ok r =>
        obtain ⟨_, s1⟩ := r
        have hl := (rd_len o n).1 _ _ _ _ h
        simp only [resume]
        rw [run_item, run_arr]
        cases h2 : contArray i s1 with
        | error e => rfl
        | ok r2 =>
          obtain ⟨c, s2⟩ := r2
          have hl2 := contArray_len h2
          cases c with
          | item => exact ihI s2 K _ _ ctx hK (by omega)
          | end_ => rfl
    · intro s K acc i key e ctx hK hn
      rw [ihV s (.objectEntry acc i key e :: K) .objectValue rfl (by omega), rdMembers]
      cases h : rdValue o n Ctx.objectValue s with
      | error x => rfl
      | ok r =>
        obtain ⟨_, s1⟩ := r
        have hl := (rd_len o n).1 _ _ _ _ h
        simp only [resume]
        rw [run_entry]
        cases h1 : s1.endFragment e with
        | error x => rfl
        | ok s2 =>
          have hl1 := endFragment_len h1
          -- reduce the `>>=` of the reference on `.ok`
          show run o _ none s2 = _
          dsimp only
          rw [run_obj]
          cases h2 : contObject o i s2 with
          | error x => rfl
          | ok r2 =>
            obtain ⟨c, s3⟩ := r2
            have hl2 := contObject_len h2
            cases c with
            | entry key' e' => exact ihM s3 K _ _ _ _ ctx hK (by omega)
            | end_ => rfl

theorem machine_eq_rd (o : ParseOptions) (s : PS) :
    run o [] none s = rdDocument o (2 * s.rest.length + 1) s := by
  rw [(machine_rd o _).1 s [] .none rfl (Nat.le_refl _)]
  simp only [resume, rdDocument]
  cases rdValue o (2 * s.rest.length + 1) Ctx.none s with
  | error e => rfl
  -- `finish v s'` unfolds to the tail of `rdDocument`
  | ok r => exact run_halt .finish

end JsonVerif
