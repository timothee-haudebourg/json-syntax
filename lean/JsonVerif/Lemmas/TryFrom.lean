import JsonVerif.Model.TryFrom
import JsonVerif.Lemmas.Mapped
/-!
# The typed conversions report a kind mismatch at the pre-order index of the offending fragment (C11)

`convSpec τ v off` is the specification: walk `v` along `τ` in pre-order, numbering fragments from
`off` by fragment counts alone (no code map); the first value whose kind does not fit is reported
with its number. `tryFrom_eq`: on a well-formed code map the real conversion (which finds its way
through the code map's volumes) never panics and returns exactly that.
-/
namespace JsonVerif

def convSpecL (f : JValue → Nat → Except Nat Unit) : List JValue → Nat → Except Nat Unit
  | [], _ => .ok ()
  | x :: xs, o =>
    match f x o with
    | .ok () => convSpecL f xs (o + x.frags)
    | .error e => .error e

def convSpecM (f : JValue → Nat → Except Nat Unit) : List (Key × JValue) → Nat → Except Nat Unit
  | [], _ => .ok ()
  | (_, x) :: es, o =>
    match f x (o + 2) with
    | .ok () => convSpecM f es (o + 2 + x.frags)
    | .error e => .error e

def convSpec : CTy → JValue → Nat → Except Nat Unit
  | .bool, v, off => if leafOk .bool v then .ok () else .error off
  | .str, v, off => if leafOk .str v then .ok () else .error off
  | .unit, v, off => if leafOk .unit v then .ok () else .error off
  | .u8, v, off => if leafOk .u8 v then .ok () else .error off
  | .opt t, v, off => (match v with | .null => .ok () | _ => convSpec t v off)
  | .box t, v, off => convSpec t v off
  | .vec t, v, off => (match v with | .array xs => convSpecL (convSpec t) xs (off + 1) | _ => .error off)
  | .map t, v, off => (match v with | .object es => convSpecM (convSpec t) es (off + 1) | _ => .error off)

theorem convItems_array (cm : List CMEntry) (f : JValue → Nat → Option (Except Nat Unit))
    (g : JValue → Nat → Except Nat Unit)
    (hfg : ∀ x o, At (volumes cm) o (volsV x) → f x o = some (g x o)) :
    ∀ (xs : List JValue) (o : Nat), At (volumes cm) o (volsL xs) →
      convItems f (xs.zip (offsetsL o xs)) = some (convSpecL g xs o)
  | [], _, _ => rfl
  | x :: xs, o, h => by
    have ih := convItems_array cm f g hfg xs _ (At.vols h).2
    simp only [offsetsL, List.zip_cons_cons, convItems, convSpecL, hfg x o h.left]
    cases g x o with
    | error e => rfl
    | ok u => exact ih

theorem convItems_object (cm : List CMEntry) (f : JValue → Nat → Option (Except Nat Unit))
    (g : JValue → Nat → Except Nat Unit)
    (hfg : ∀ x o, At (volumes cm) o (volsV x) → f x o = some (g x o)) :
    ∀ (es : List (Key × JValue)) (o : Nat), At (volumes cm) o (volsM es) →
      convItems f ((es.map (·.2)).zip ((offsetsM o es).map (·.2.2))) = some (convSpecM g es o)
  | [], _, _ => rfl
  | (k, x) :: es, o, h => by
    have h2 : At (volumes cm) (o + 2) (volsV x ++ volsM es) := h.tail.tail
    have ih := convItems_object cm f g hfg es _ (At.vols h2).2
    simp only [offsetsM, List.map_cons, List.zip_cons_cons, convItems, convSpecM, hfg x _ h2.left]
    cases g x (o + 2) with
    | error e => rfl
    | ok u => exact ih

theorem tryFrom_at (cm : List CMEntry) : ∀ (t : CTy) (v : JValue) (o : Nat),
    At (volumes cm) o (volsV v) → tryFrom cm t v o = some (convSpec t v o)
  | .bool, _, _, _ => rfl
  | .str, _, _, _ => rfl
  | .unit, _, _, _ => rfl
  | .u8, _, _, _ => rfl
  | .opt t, v, o, h => by
    cases v with
    | null => rfl
    | _ => exact tryFrom_at cm t _ o h
  | .box t, v, o, h => tryFrom_at cm t v o h
  | .vec t, v, o, h => by
    cases v with
    | array xs =>
      simp only [tryFrom, convSpec, arrayMapped, arrayMappedFrom_eq cm xs _ h.tail]
      exact convItems_array cm _ _ (tryFrom_at cm t) xs _ h.tail
    | _ => rfl
  | .map t, v, o, h => by
    cases v with
    | object es =>
      simp only [tryFrom, convSpec, objectMapped, objectMappedFrom_eq cm es _ h.tail]
      exact convItems_object cm _ _ (tryFrom_at cm t) es _ h.tail
    | _ => rfl

theorem tryFrom_eq (cm : List CMEntry) : ∀ (t : CTy) (v : JValue) (pre post : List Nat),
    volumes cm = pre ++ volsV v ++ post → tryFrom cm t v pre.length = some (convSpec t v pre.length) :=
  fun t v _ _ h => tryFrom_at cm t v _ (At.of_eq h)

/-- what a conversion to `τ` accepts at the root of a value -/
def headOk : CTy → JValue → Bool
  | .opt _, .null => true
  | .opt t, v => headOk t v
  | .box t, v => headOk t v
  | .vec _, .array _ => true
  | .map _, .object _ => true
  | .vec _, _ => false
  | .map _, _ => false
  | t, v => leafOk t v

/-- the reported offset is the pre-order number of a VALUE fragment that a sub-conversion rejects.
    (`t'` is not tied to the descriptor that reaches `w`: the last clause says only that some
    descriptor rejects `w` at its root.) -/
def BadAt (v : JValue) (off e : Nat) : Prop :=
  ∃ i w t', e = off + i ∧ (preV v)[i]? = some (.value w) ∧ headOk t' w = false

/-- `BadAt` for any stretch `l` of a pre-order in place of `preV v` (`BadAt v` unfolds to
    `BadIn (preV v)`): the form that passes through `++`, in which the list companions of
    `convSpec_bad` conclude. -/
def BadIn (l : List Frag) (off e : Nat) : Prop :=
  ∃ i w t', e = off + i ∧ l[i]? = some (.value w) ∧ headOk t' w = false

theorem BadIn.left {a off e} (b : List Frag) : BadIn a off e → BadIn (a ++ b) off e
  | ⟨i, w, t', he, hi, hb⟩ =>
    ⟨i, w, t', he, by rw [List.getElem?_append_left (List.getElem?_eq_some_iff.1 hi).1]; exact hi, hb⟩

theorem BadIn.right {b off off' e} (a : List Frag) (hn : off + a.length = off') :
    BadIn b off' e → BadIn (a ++ b) off e
  | ⟨i, w, t', he, hi, hb⟩ =>
    ⟨a.length + i, w, t', by rw [he, ← hn, Nat.add_assoc],
      by rw [List.getElem?_append_right (Nat.le_add_right ..), Nat.add_sub_cancel_left]; exact hi, hb⟩

theorem preV_head (v : JValue) : (preV v)[0]? = some (.value v) := by
  cases v <;> rfl

theorem badAt_root {t v} (off : Nat) (h : headOk t v = false) : BadAt v off off :=
  ⟨0, v, t, rfl, preV_head v, h⟩

theorem leaf_bad {t v off e} (ht : headOk t v = leafOk t v)
    (h : (if leafOk t v then Except.ok () else .error off) = .error e) : BadAt v off e := by
  split at h
  · cases h
  · rename_i hb; cases h; exact badAt_root off (ht.trans (Bool.not_eq_true _ ▸ hb))

theorem convSpecL_bad (g : JValue → Nat → Except Nat Unit)
    (hg : ∀ x o e, g x o = .error e → BadIn (preV x) o e) :
    ∀ (xs : List JValue) (o e : Nat), convSpecL g xs o = .error e → BadIn (poL xs) o e
  | x :: xs, o, e, h => by
    simp only [convSpecL] at h
    split at h
    · exact (convSpecL_bad g hg xs _ e h).right _ (by rw [preV_length])
    · rename_i hx; cases h; exact (hg x o _ hx).left _

theorem convSpecM_bad (g : JValue → Nat → Except Nat Unit)
    (hg : ∀ x o e, g x o = .error e → BadIn (preV x) o e) :
    ∀ (es : List (Key × JValue)) (o e : Nat), convSpecM g es o = .error e → BadIn (poM es) o e
  | (k, x) :: es, o, e, h => by
    simp only [convSpecM] at h
    split at h
    · refine (convSpecM_bad g hg es _ e h).right (_ :: _ :: preV x) ?_
      simp only [List.length_cons, preV_length]
      omega
    · rename_i hx; cases h
      exact ((hg x _ _ hx).right [.entry k x, .key k] rfl).left _

theorem convSpec_bad : ∀ (t : CTy) (v : JValue) (off e : Nat), convSpec t v off = .error e → BadAt v off e
  | .bool, _, _, _, h => leaf_bad rfl h
  | .str, _, _, _, h => leaf_bad rfl h
  | .unit, _, _, _, h => leaf_bad rfl h
  | .u8, _, _, _, h => leaf_bad rfl h
  | .opt t, v, off, e, h => by
    cases v with
    | null => cases h
    | _ => exact convSpec_bad t _ off e h
  | .box t, v, off, e, h => convSpec_bad t v off e h
  | .vec t, v, off, e, h => by
    cases v with
    | array xs =>
      exact (convSpecL_bad (convSpec t) (convSpec_bad t) xs _ e h).right [_] rfl
    | _ => simp only [convSpec] at h; cases h; exact badAt_root off (t := .vec t) rfl
  | .map t, v, off, e, h => by
    cases v with
    | object es =>
      exact (convSpecM_bad (convSpec t) (convSpec_bad t) es _ e h).right [_] rfl
    | _ => simp only [convSpec] at h; cases h; exact badAt_root off (t := .map t) rfl

end JsonVerif
