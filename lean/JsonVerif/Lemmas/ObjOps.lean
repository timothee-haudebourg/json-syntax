import JsonVerif.Lemmas.ObjInsert
/-!
# The append-side operations (`new`, `push`, `extend`, `from_vec`, `sort`, value mutation)

Each is `IndexMap::insert` at the next position: once the positions below `n` are indexed, indexing
`n` gives the positions below `n + 1` (`maskAdd_lt`), and appending an entry does not disturb the
positions already there (`posMask_append`). Each operation comes with its plain-list refinement.
-/
namespace JsonVerif
open Obj

variable {es : List (Key × JValue)} {k : Key} {o : Obj} {i : Nat}

theorem keyAt_append_left {e : Key × JValue} (hi : i < es.length) :
    keyAt (es ++ [e]) i = keyAt es i := by
  unfold keyAt; rw [List.getElem?_append_left hi]

theorem posMask_append (e : Key × JValue) (k : Key) :
    posMask (fun i => decide (i < es.length)) k (es ++ [e]) = posMask (fun _ => true) k es := by
  refine (eq_posMask (posMask_sorted ..) fun i => ?_).symm
  simp only [mem_posMask, decide_eq_true_eq, and_true]
  exact ⟨fun h => ⟨keyAt_append_left (lt_of_keyAt h) ▸ h, lt_of_keyAt h⟩,
    fun ⟨h1, h2⟩ => keyAt_append_left h2 ▸ h1⟩

theorem inv_empty : Inv Obj.empty := .nil fun _ => rfl

theorem maskAdd_lt (n j : Nat) : maskAdd (fun i => decide (i < n)) n j = decide (j < n + 1) := by
  rw [Bool.eq_iff_iff]
  simp [maskAdd, Nat.lt_succ_iff_lt_or_eq]

theorem push_inv (h : Inv o) (k : Key) (v : JValue) :
    ∃ o' fresh, o.push k v = some (o', fresh) ∧ Inv o' ∧ o'.entries = o.entries ++ [(k, v)] ∧
      (fresh = true ↔ posOf k o.entries = []) := by
  obtain ⟨bs', fresh, hins, hinv, hfresh⟩ := indexInsert_inv (j := o.entries.length) (k := k)
    (h.of_posMask_eq (posMask_append (k, v))) (by simp [keyAt])
  refine ⟨⟨_, bs'⟩, fresh, by simp [Obj.push, hins], hinv.congr fun i hi => ?_, rfl,
    by rw [hfresh, posMask_append, posMask_true]⟩
  rw [List.length_append] at hi
  rw [maskAdd_lt]
  exact decide_eq_true hi

theorem indexInsertRange_inv :
    ∀ (n i : Nat) (bs : List Bucket), i + n = es.length →
      InvMask (fun j => decide (j < i)) es bs →
      ∃ bs', indexInsertRange es n i bs = some bs' ∧ InvMask (fun _ => true) es bs'
  | 0, i, bs, hlen, h => ⟨bs, rfl, h.congr fun j hj => decide_eq_true (by omega)⟩
  | n + 1, i, bs, hlen, h => by
    obtain ⟨bs1, _, hins, hinv, _⟩ := indexInsert_inv h (keyAt_of_lt (by omega : i < es.length))
    obtain ⟨bs', hr, hfin⟩ := indexInsertRange_inv n (i + 1) bs1 (by omega)
      (hinv.congr fun j _ => maskAdd_lt i j)
    exact ⟨bs', by simp only [indexInsertRange, hins, hr], hfin⟩

theorem fromVec_inv (es : List (Key × JValue)) :
    ∃ o, Obj.fromVec es = some o ∧ Inv o ∧ o.entries = es := by
  obtain ⟨bs', hr, hinv⟩ := indexInsertRange_inv (es := es) es.length 0 [] (Nat.zero_add _)
    (.nil fun _ => by simp [posMask])
  exact ⟨⟨es, bs'⟩, by simp [Obj.fromVec, hr], hinv, rfl⟩

theorem sort_inv (o : Obj) : ∃ o', o.sort = some o' ∧ Inv o' ∧ o'.entries = sortEntries o.entries :=
  fromVec_inv _

theorem extend_inv : ∀ (l : List (Key × JValue)) {o : Obj}, Inv o →
    ∃ o', o.extend l = some o' ∧ Inv o' ∧ o'.entries = o.entries ++ l
  | [], o, h => ⟨o, rfl, h, by simp⟩
  | (k, v) :: r, o, h => by
    obtain ⟨o1, fresh, hp, hi, he, _⟩ := push_inv h k v
    obtain ⟨o2, hx, hi2, he2⟩ := extend_inv r hi
    exact ⟨o2, by simp only [Obj.extend, hp, hx], hi2, by rw [he2, he]; simp⟩

theorem keyAt_set_value (hk : keyAt es i = some k) (v : JValue) (j : Nat) :
    keyAt (es.set i (k, v)) j = keyAt es j := by
  unfold keyAt
  rw [List.getElem?_set]
  split
  · rename_i e
    rw [← e, if_pos (lt_of_keyAt hk)]
    exact hk.symm
  · rfl

/-- replacing the *value* of an entry leaves every key, hence every position list and the index,
    untouched -/
theorem set_inv (h : Inv o) {p : Nat} (hk : keyAt o.entries p = some k) (v : JValue) :
    Inv ⟨o.entries.set p (k, v), o.buckets⟩ :=
  h.of_posMask_eq fun k' => by simp only [posMask, posOf, List.length_set, keyAt_set_value hk]

theorem setValueAt_inv (h : Inv o) (i : Nat) (v : JValue) : Inv (o.setValueAt i v) := by
  unfold Obj.setValueAt
  split
  · rename_i k _ hi
    exact set_inv h (by simp [keyAt, hi]) v
  · exact h

end JsonVerif
