import JsonVerif.Spec.RD
/-!
# Induction over a successful run of the recursive-descent reference

`rd_ind`: a triple of predicates on (arguments, result) of `rdValue` / `rdItems` / `rdMembers` that is
preserved by each way the three functions produce a result holds of every result, for every fuel.
The seven hypotheses are the seven `.ok` paths of Spec/RD.lean. `rdDocument_ok` reads the wrapper
`rdDocument` around a value the same way.
-/
namespace JsonVerif

theorem rd_ind {o : ParseOptions} {PV : Ctx → PS → JValue → PS → Prop}
    {PI : List JValue → Nat → PS → JValue → PS → Prop}
    {PM : List JEntry → Nat → List Char → Nat → PS → JValue → PS → Prop}
    (leaf : ∀ {ctx s v s'}, parseFragment o ctx s = .ok (.value v, s') → PV ctx s v s')
    (arr : ∀ {ctx s i s1 v s'}, parseFragment o ctx s = .ok (.beginArray i, s1) →
      PI [] i s1 v s' → PV ctx s v s')
    (obj : ∀ {ctx s i key e s1 v s'}, parseFragment o ctx s = .ok (.beginObject i key e, s1) →
      PM [] i key e s1 v s' → PV ctx s v s')
    (item : ∀ {acc i s x s1 s2 v s'}, PV .array s x s1 → contArray i s1 = .ok (.item, s2) →
      PI (acc ++ [x]) i s2 v s' → PI acc i s v s')
    (last : ∀ {acc i s x s1 s2}, PV .array s x s1 → contArray i s1 = .ok (.end_, s2) →
      PI acc i s (.array (acc ++ [x])) s2)
    (entry : ∀ {acc i key e s x s1 s2 key' e' s3 v s'}, PV .objectValue s x s1 →
      s1.endFragment e = .ok s2 → contObject o i s2 = .ok (.entry key' e', s3) →
      PM (acc ++ [(key, x)]) i key' e' s3 v s' → PM acc i key e s v s')
    (close : ∀ {acc i key e s x s1 s2 s3}, PV .objectValue s x s1 → s1.endFragment e = .ok s2 →
      contObject o i s2 = .ok (.end_, s3) → PM acc i key e s (.object (acc ++ [(key, x)])) s3) :
    ∀ n, (∀ ctx s v s', rdValue o n ctx s = .ok (v, s') → PV ctx s v s') ∧
      (∀ acc i s v s', rdItems o n acc i s = .ok (v, s') → PI acc i s v s') ∧
      (∀ acc i key e s v s', rdMembers o n acc i key e s = .ok (v, s') → PM acc i key e s v s') := by
  intro n
  induction n with
  | zero => exact ⟨fun _ _ _ _ h => (by cases h), fun _ _ _ _ _ h => (by cases h),
      fun _ _ _ _ _ _ _ h => (by cases h)⟩
  | succ n ih =>
    obtain ⟨ihV, ihI, ihM⟩ := ih
    refine ⟨fun ctx s v s' h => ?_, fun acc i s v s' h => ?_, fun acc i key e s v s' h => ?_⟩
    · simp only [rdValue] at h
      split at h
      next => cases h
      next hf => cases h; exact leaf hf
      next hf => exact arr hf (ihI _ _ _ _ _ h)
      next hf => exact obj hf (ihM _ _ _ _ _ _ _ h)
    · simp only [rdItems] at h
      split at h
      next => cases h
      next hx =>
        have hv := ihV _ _ _ _ hx
        split at h
        next => cases h
        next hc => exact item hv hc (ihI _ _ _ _ _ h)
        next hc => cases h; exact last hv hc
    · simp only [rdMembers] at h
      split at h
      next => cases h
      next hx =>
        have hv := ihV _ _ _ _ hx
        split at h
        next => cases h
        next he =>
          split at h
          next => cases h
          next hc => exact entry hv he hc (ihM _ _ _ _ _ _ _ h)
          next hc => cases h; exact close hv he hc

theorem rdDocument_ok {o : ParseOptions} {n : Nat} {s : PS} {v : JValue} {s' : PS}
    (h : rdDocument o n s = .ok (v, s')) :
    ∃ s1, rdValue o n .none s = .ok (v, s1) ∧ skipWs s1 = .ok s' ∧ s'.rest = [] := by
  unfold rdDocument at h
  split at h
  next => cases h
  next hv =>
    split at h
    next => cases h
    next hw =>
      split at h
      next => cases h
      next hr => cases h; exact ⟨_, hv, hw, hr⟩

end JsonVerif
