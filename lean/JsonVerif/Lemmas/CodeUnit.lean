import JsonVerif.Spec.Grammar
/-!
# Arithmetic of `\uXXXX` code units: hex digits, surrogate ranges, `char::from_u32`
-/
namespace JsonVerif

theorem hexVal_spec {c : Char} {v : Nat} (h : hexVal c = some v) : v < 16 ∧ c.utf8Size = 1 := by
  have le : ∀ {k : Char}, c ≤ k → c.toNat ≤ k.toNat := fun hk => UInt32.le_iff_toNat_le.1 hk
  -- 57 = '9', 102 = 'f', 70 = 'F': all at most 0x7f, hence one byte in UTF-8
  have size : c.toNat ≤ 102 → c.utf8Size = 1 := fun hc => by
    have : c.val ≤ 0x7f := UInt32.le_iff_toNat_le.2 (Nat.le_trans hc (by decide))
    simp [Char.utf8Size, this]
  unfold hexVal at h
  split at h
  · rename_i hc
    cases h
    have : c.toNat ≤ 57 := le hc.2
    exact ⟨by omega, size (by omega)⟩
  · split at h
    · rename_i hc
      cases h
      have : c.toNat ≤ 102 := le hc.2
      exact ⟨by omega, size this⟩
    · split at h
      · rename_i hc
        cases h
        have : c.toNat ≤ 70 := le hc.2
        exact ⟨by omega, size (by omega)⟩
      · cases h

theorem hexCp_lt {a b c d : Char} {cp : Nat} (h : hexCp a b c d = some cp) : cp < 65536 := by
  unfold hexCp at h
  split at h
  · rename_i x3 x2 x1 x0 h3 h2 h1 h0
    cases h
    have := (hexVal_spec h3).1
    have := (hexVal_spec h2).1
    have := (hexVal_spec h1).1
    have := (hexVal_spec h0).1
    omega
  · cases h

theorem hexCp_sizes {a b c d : Char} {cp : Nat} (h : hexCp a b c d = some cp) :
    utf8Len [a, b, c, d] = 4 := by
  unfold hexCp at h
  split at h
  · rename_i x3 x2 x1 x0 h3 h2 h1 h0
    simp only [utf8Len_cons, utf8Len_nil, (hexVal_spec h3).2, (hexVal_spec h2).2, (hexVal_spec h1).2,
      (hexVal_spec h0).2]
  · cases h

theorem ofCp_none_low {cp : Nat} (h : ofCp cp = none) (hlt : cp < 65536) (hh : isHigh cp = false) :
    isLow cp = true := by
  unfold ofCp at h
  split at h
  · cases h
  · -- below 65536 the only code points that are no scalar values are the surrogates D800–DFFF
    rename_i hv
    simp only [Nat.isValidChar, not_or, not_and, Nat.not_lt] at hv
    simp only [isHigh, Bool.and_eq_false_iff, decide_eq_false_iff_not, Nat.not_le] at hh
    simp only [isLow, Bool.and_eq_true, decide_eq_true_eq]
    omega

theorem ofCp_low_none {lo : Nat} (h : isLow lo = true) : ofCp lo = none := by
  unfold ofCp
  simp only [isLow, Bool.and_eq_true, decide_eq_true_eq] at h
  rw [dif_neg]
  simp only [Nat.isValidChar, not_or, not_and, Nat.not_lt]
  omega

theorem ofCp_pair_some {h l : Nat} (hh : isHigh h = true) (hl : isLow l = true) :
    ∃ ch, ofCp (pairCp h l) = some ch := by
  unfold ofCp
  simp only [isHigh, isLow, Bool.and_eq_true, decide_eq_true_eq] at hh hl
  have : (pairCp h l).isValidChar := by
    simp only [Nat.isValidChar, pairCp]; omega
  rw [dif_pos this]
  exact ⟨_, rfl⟩

theorem isLow_not_high {n : Nat} (h : isLow n = true) : isHigh n = false := by
  simp only [isLow, isHigh, Bool.and_eq_true, decide_eq_true_eq, Bool.and_eq_false_iff,
    decide_eq_false_iff_not, Nat.not_le] at *
  omega

end JsonVerif
