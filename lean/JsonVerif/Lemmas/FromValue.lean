import JsonVerif.Lemmas.DeNum
import JsonVerif.Lemmas.Serde
/-!
# `from_value::<Value>`: the value comes back, numbers re-spelled by the number dispatch of de.rs
-/
namespace JsonVerif

mutual
/-- the value with every number passed through `visit_number` and back into a `Value` (`numBack`) -/
def backValue (ft : List Char → Option (List Char)) : JValue → JValue
  | .number n => numBack ft n
  | .array xs => .array (backValueL ft xs)
  | .object es => .object (backValueM ft es)
  | .null => .null
  | .bool b => .bool b
  | .string s => .string s
def backValueL (ft : List Char → Option (List Char)) : List JValue → List JValue
  | [] => []
  | x :: xs => backValue ft x :: backValueL ft xs
def backValueM (ft : List Char → Option (List Char)) : List (List Char × JValue) → List (List Char × JValue)
  | [] => []
  | (k, x) :: es => (k, backValue ft x) :: backValueM ft es
end

mutual
/-- no object has duplicate keys, and none starts with the private number token -/
def DePlain : JValue → Prop
  | .array xs => DePlainL xs
  | .object es => DePlainM es ∧ (es.map (·.1)).Nodup ∧ (es.map (·.1)).head? ≠ some numberToken
  | _ => True
def DePlainL : List JValue → Prop
  | [] => True
  | x :: xs => DePlain x ∧ DePlainL xs
def DePlainM : List (List Char × JValue) → Prop
  | [] => True
  | (_, x) :: es => DePlain x ∧ DePlainM es
end

theorem backValueM_keys (ft : List Char → Option (List Char)) : ∀ (es : List (List Char × JValue)),
    (backValueM ft es).map (·.1) = es.map (·.1)
  | [] => rfl
  | (k, x) :: es => by simp [backValueM, backValueM_keys ft es]

mutual
theorem fromValue_plain (ft : List Char → Option (List Char)) : ∀ (v : JValue), DePlain v →
    fromValue ft v = .ok (backValue ft v) := by
  intro v h
  cases v with
  | null => rfl
  | bool _ => rfl
  | number _ => rfl
  | string _ => rfl
  | array xs => simp only [fromValue, fromValueL_plain ft xs h, backValue]
  | object es =>
    cases es with
    | nil => rfl
    | cons e es =>
      obtain ⟨k, x⟩ := e
      obtain ⟨⟨hx, hes⟩, hnd, hk⟩ := h
      have hk' : (k == numberToken) = false := beq_eq_false_iff_ne.mpr fun e => hk (congrArg some e)
      simp only [fromValue, hk', Bool.false_eq_true, ↓reduceIte, fromValue_plain ft x hx,
        fromValueM_plain ft es [(k, backValue ft x)] hes hnd, backValue, backValueM, List.cons_append,
        List.nil_append]
theorem fromValueL_plain (ft : List Char → Option (List Char)) : ∀ (xs : List JValue), DePlainL xs →
    fromValueL ft xs = .ok (backValueL ft xs) := by
  intro xs h
  cases xs with
  | nil => rfl
  | cons x xs =>
    simp only [fromValueL, fromValue_plain ft x h.1, fromValueL_plain ft xs h.2, backValueL]
theorem fromValueM_plain (ft : List Char → Option (List Char)) :
    ∀ (es acc : List (List Char × JValue)), DePlainM es → (acc.map (·.1) ++ es.map (·.1)).Nodup →
    fromValueM ft es acc = .ok (.object (acc ++ backValueM ft es)) := by
  intro es acc h hnd
  cases es with
  | nil => simp only [fromValueM, backValueM, List.append_nil]
  | cons e es =>
    obtain ⟨k, x⟩ := e
    have hnd' : ((acc ++ [(k, backValue ft x)]).map (·.1) ++ es.map (·.1)).Nodup := by
      simpa only [List.map_append, List.map_cons, List.map_nil, List.append_assoc, List.cons_append,
        List.nil_append] using hnd
    simp only [fromValueM, fromValue_plain ft x h.1, listInsert_next _ hnd,
      fromValueM_plain ft es _ h.2 hnd', backValueM, List.append_assoc, List.cons_append, List.nil_append]
end

theorem numBack_u64 (ft : List Char → Option (List Char)) (n : List Char) (u : Nat)
    (h : asU64 n = some u) : ∃ t, numBack ft n = .number t ∧ asU64 t = some u :=
  ⟨natText u, by simp [numBack, numEvent, h], asU64_natText u (asU64_lt h)⟩

theorem numBack_i64 (ft : List Char → Option (List Char)) (n : List Char) (i : Int)
    (h0 : asU64 n = none) (h : asI64 n = some i) : ∃ t, numBack ft n = .number t ∧ asI64 t = some i := by
  have hi := asI64_bounds h
  refine ⟨intText i, by simp [numBack, numEvent, h0, h], ?_⟩
  cases i with
  | ofNat m => rw [intText_ofNat]; exact asI64_natText m hi.2
  | negSucc m => exact asI64_neg m hi.1

theorem numBack_f64 (ft : List Char → Option (List Char)) (n : List Char)
    (h0 : asU64 n = none) (h1 : asI64 n = none) :
    (∀ t, ft n = some t → numBack ft n = .number t) ∧ (ft n = none → numBack ft n = .null) := by
  constructor
  · intro t ht; simp [numBack, numEvent, h0, h1, ht]
  · intro ht; simp [numBack, numEvent, h0, h1, ht]

theorem mapNumbersM_keys (f : List Char → List Char) : ∀ (es : List (List Char × JValue)),
    (mapNumbersM f es).map (·.1) = es.map (·.1)
  | [] => rfl
  | (k, x) :: es => by simp [mapNumbersM, mapNumbersM_keys f es]

mutual
theorem dePlain_mapNumbers (f : List Char → List Char) : ∀ (v : JValue), Plain v → DePlain (mapNumbers f v) := by
  intro v h
  cases v with
  | null => trivial
  | bool _ => trivial
  | number _ => trivial
  | string _ => trivial
  | array xs => exact dePlainL_mapNumbers f xs h
  | object es =>
    obtain ⟨h1, h2, h3⟩ := h
    refine ⟨dePlainM_mapNumbers f es h1, ?_, ?_⟩
    · rwa [mapNumbersM_keys]
    · rw [mapNumbersM_keys]; exact fun hh => h3 (List.mem_of_head? hh)
theorem dePlainL_mapNumbers (f : List Char → List Char) : ∀ (xs : List JValue), PlainL xs →
    DePlainL (mapNumbersL f xs) := by
  intro xs h
  cases xs with
  | nil => trivial
  | cons x xs => exact ⟨dePlain_mapNumbers f x h.1, dePlainL_mapNumbers f xs h.2⟩
theorem dePlainM_mapNumbers (f : List Char → List Char) : ∀ (es : List (List Char × JValue)), PlainM es →
    DePlainM (mapNumbersM f es) := by
  intro es h
  cases es with
  | nil => trivial
  | cons e es => exact ⟨dePlain_mapNumbers f e.2 h.1, dePlainM_mapNumbers f es h.2⟩
end

end JsonVerif
