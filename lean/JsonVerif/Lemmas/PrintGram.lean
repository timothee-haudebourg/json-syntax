import JsonVerif.Lemmas.PrintTokens
import JsonVerif.Spec.Grammar
/-!
# Every whitespace-interleaving of a value's token sequence is an RFC 8259 text denoting that value

With `spec_interleave` (every layout the printer can produce is such an interleaving) this puts the
printer's output inside the grammar, and the completeness theorem of the parser then gives the
round trip of C04 for every value and every option record. `NumsOk`, the hypothesis of that round
trip, is defined here.
-/
namespace JsonVerif

-- the invariant of `NumberBuf`: every number of the value is spelled as a JSON number
mutual
def NumsOk : JValue → Prop
  | .number n => GNumber n
  | .array xs => NumsOkL xs
  | .object es => NumsOkM es
  | _ => True
def NumsOkL : List JValue → Prop
  | [] => True
  | x :: xs => NumsOk x ∧ NumsOkL xs
def NumsOkM : List (List Char × JValue) → Prop
  | [] => True
  | (_, x) :: es => NumsOk x ∧ NumsOkM es
end

theorem shortEscapes_esc2 : ∀ p ∈ shortEscapes, p.2 ≠ 'u' ∧ esc2 p.2 = some p.1 := by decide +kernel

/-- the `\u00xx` escapes of the 32 control characters, read back -/
theorem ctl_escape : ∀ n : Fin 32,
    hexCp '0' '0' (hexDigitLower (n.val / 16)) (hexDigitLower (n.val % 16)) = some n.val ∧
    isHigh n.val = false ∧ ofCp n.val = some (Char.ofNat n.val) := by decide +kernel

theorem escapeChar_gelem (c : Char) : GElem (escapeChar c) c :=
  escape_cases (P := fun c e _ => GElem e c)
    (fun p hp => .esc p.2 p.1 (shortEscapes_esc2 p hp).1 (shortEscapes_esc2 p hp).2)
    (fun c h => by
      obtain ⟨h1, h2, h3⟩ := ctl_escape ⟨c.toNat, h⟩
      rw [Char.ofNat_toNat] at h3
      exact .u _ _ _ _ c.toNat c h1 h2 h3)
    (fun c h h1 h2 => .raw c h2 h1 (by simp only [isControl, decide_eq_false_iff_not]; omega)) c

theorem body_gbody (s : List Char) : GBody (s.flatMap escapeChar) s := by
  induction s with
  | nil => exact .nil
  | cons c s ih =>
    rw [List.flatMap_cons]
    exact .cons _ c _ s (escapeChar_gelem c) ih

theorem stringLiteral_gstring (s : List Char) : GString (stringLiteral s) s :=
  .mk _ s (body_gbody s)

/-- `AllWs` (Lemmas/PrintTokens.lean) and `IsWsL` (Spec/Grammar.lean) have the same body. -/
theorem AllWs.isWsL {w : List Char} (h : AllWs w) : IsWsL w := h

theorem Interleave.cons_inv {t : List Char} {ts : List (List Char)} {text : List Char}
    (h : Interleave (t :: ts) text) :
    ∃ w rest, text = w ++ t ++ rest ∧ IsWsL w ∧ Interleave ts rest := by
  cases h with
  | cons w t ts rest hw hr => exact ⟨w, rest, rfl, hw.isWsL, hr⟩

theorem Interleave.nil_inv {text : List Char} (h : Interleave [] text) : IsWsL text := by
  cases h with
  | nil w hw => exact hw.isWsL

/-- the tokens of a non-empty item list, without a leading separator; the index `i` is only there
    to stay in step with that of `toksL`, which continues at `i + 1` -/
def toksL' : List JValue → Nat → List (List Char)
  | [], _ => []
  | x :: xs, i => toks x ++ toksL xs (i + 1)
/-- the tokens of a non-empty member list, without a leading separator (`i` as in `toksL'`) -/
def toksM' : List (List Char × JValue) → Nat → List (List Char)
  | [], _ => []
  | (k, x) :: es, i => stringLiteral k :: [':'] :: (toks x ++ toksM es (i + 1))

theorem interleave_leaf {v : JValue} {t : List Char} (ht : toks v = [t]) (hg : GValue t v)
    {ts : List (List Char)} {text : List Char} (h : Interleave (toks v ++ ts) text) :
    ∃ w t rest, text = w ++ t ++ rest ∧ IsWsL w ∧ GValue t v ∧ Interleave ts rest := by
  rw [ht] at h
  obtain ⟨w, rest, rfl, hw, hr⟩ := h.cons_inv
  exact ⟨w, t, rest, rfl, hw, hg, hr⟩

mutual
theorem interleave_value : ∀ (v : JValue), NumsOk v → ∀ (ts : List (List Char)) (text : List Char),
    Interleave (toks v ++ ts) text →
    ∃ w t rest, text = w ++ t ++ rest ∧ IsWsL w ∧ GValue t v ∧ Interleave ts rest := by
  intro v hn ts text h
  cases v with
  | null => exact interleave_leaf rfl .null h
  | bool b =>
    cases b with
    | true => exact interleave_leaf rfl .true h
    | false => exact interleave_leaf rfl .false h
  | number n => exact interleave_leaf rfl (.number n hn) h
  | string s => exact interleave_leaf rfl (.string _ s (stringLiteral_gstring s)) h
  | array xs =>
    have ih := interleave_items xs 0 hn
    simp only [toks, List.cons_append, List.append_assoc] at h
    obtain ⟨w, rest1, rfl, hw, hr1⟩ := h.cons_inv
    cases xs with
    | nil =>
      obtain ⟨w0, rest, rfl, hw0, hr⟩ := hr1.cons_inv
      exact ⟨w, '[' :: (w0 ++ [']']), rest, by simp, hw, .arrEmpty w0 hw0, hr⟩
    | cons x xs =>
      -- at index 0 there is no separator: `toksL (x :: xs) 0` unfolds to `toksL' (x :: xs) 0`
      obtain ⟨ti, rest, rfl, hi, hr⟩ := ih (List.cons_ne_nil _ _) ts rest1 hr1
      exact ⟨w, '[' :: (ti ++ [']']), rest, by simp, hw, .arr ti _ hi, hr⟩
  | object es =>
    have ih := interleave_members es 0 hn
    simp only [toks, List.cons_append, List.append_assoc] at h
    obtain ⟨w, rest1, rfl, hw, hr1⟩ := h.cons_inv
    cases es with
    | nil =>
      obtain ⟨w0, rest, rfl, hw0, hr⟩ := hr1.cons_inv
      exact ⟨w, '{' :: (w0 ++ ['}']), rest, by simp, hw, .objEmpty w0 hw0, hr⟩
    | cons e es =>
      obtain ⟨tm, rest, rfl, hm, hr⟩ := ih (List.cons_ne_nil _ _) ts rest1 hr1
      exact ⟨w, '{' :: (tm ++ ['}']), rest, by simp, hw, .obj tm _ hm, hr⟩
theorem interleave_items : ∀ (l : List JValue) (i : Nat), NumsOkL l → l ≠ [] →
    ∀ (ts : List (List Char)) (text : List Char),
    Interleave (toksL' l i ++ [']'] :: ts) text →
    ∃ ti rest, text = ti ++ ']' :: rest ∧ GItems ti l ∧ Interleave ts rest := by
  intro l i hl hne ts text h
  cases l with
  | nil => exact absurd rfl hne
  | cons x l =>
    have ihx := interleave_value x hl.1
    have ihl := interleave_items l (i + 1) hl.2
    simp only [toksL', List.append_assoc] at h
    obtain ⟨w1, t, rest1, rfl, hw1, hg, hr1⟩ := ihx _ text h
    cases l with
    | nil =>
      obtain ⟨w2, rest, rfl, hw2, hr⟩ := hr1.cons_inv
      exact ⟨w1 ++ t ++ w2, rest, by simp, .one w1 t w2 x hw1 hg hw2, hr⟩
    | cons y ys =>
      -- past the comma, `toksL (y :: ys) (i + 1)` continues as `toksL' (y :: ys) (i + 1)`
      obtain ⟨w2, rest2, rfl, hw2, hr2⟩ := hr1.cons_inv
      obtain ⟨ti, rest, rfl, hi, hr⟩ := ihl (List.cons_ne_nil _ _) ts rest2 hr2
      exact ⟨w1 ++ t ++ w2 ++ ',' :: ti, rest, by simp,
        .cons w1 t w2 ti x (y :: ys) hw1 hg hw2 hi, hr⟩
theorem interleave_members : ∀ (l : List (List Char × JValue)) (i : Nat), NumsOkM l → l ≠ [] →
    ∀ (ts : List (List Char)) (text : List Char),
    Interleave (toksM' l i ++ ['}'] :: ts) text →
    ∃ tm rest, text = tm ++ '}' :: rest ∧ GMembers tm l ∧ Interleave ts rest := by
  intro l i hl hne ts text h
  cases l with
  | nil => exact absurd rfl hne
  | cons e l =>
    obtain ⟨k, x⟩ := e
    have ihx := interleave_value x hl.1
    have ihl := interleave_members l (i + 1) hl.2
    have hk := stringLiteral_gstring k
    simp only [toksM', List.cons_append, List.append_assoc] at h
    obtain ⟨w1, r1, rfl, hw1, hr1⟩ := h.cons_inv
    obtain ⟨w2, r2, rfl, hw2, hr2⟩ := hr1.cons_inv
    obtain ⟨w3, t, r3, rfl, hw3, hg, hr3⟩ := ihx _ r2 hr2
    cases l with
    | nil =>
      obtain ⟨w4, rest, rfl, hw4, hr⟩ := hr3.cons_inv
      exact ⟨w1 ++ stringLiteral k ++ w2 ++ ':' :: (w3 ++ t ++ w4), rest, by simp,
        .one w1 _ w2 w3 t w4 k x hw1 hk hw2 hw3 hg hw4, hr⟩
    | cons e2 es =>
      obtain ⟨w4, r4, rfl, hw4, hr4⟩ := hr3.cons_inv
      obtain ⟨tm, rest, rfl, hm, hr⟩ := ihl (List.cons_ne_nil _ _) ts r4 hr4
      exact ⟨w1 ++ stringLiteral k ++ w2 ++ ':' :: (w3 ++ t ++ w4 ++ ',' :: tm), rest, by simp,
        .cons w1 _ w2 w3 t w4 tm k x (e2 :: es) hw1 hk hw2 hw3 hg hw4 hm, hr⟩
end

theorem interleave_gdoc {v : JValue} (hn : NumsOk v) {text : List Char}
    (h : Interleave (toks v) text) : GDoc text v := by
  obtain ⟨w, t, rest, rfl, hw, hg, hr⟩ := interleave_value v hn [] text (by rwa [List.append_nil])
  exact ⟨w, t, rest, rfl, hw, hg, hr.nil_inv⟩

end JsonVerif
