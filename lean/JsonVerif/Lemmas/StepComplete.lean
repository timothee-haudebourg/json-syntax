import JsonVerif.Lemmas.TokComplete
/-!
# Every failing machine step can be completed (lower bound of C07, step level)

A strict step touches the end of a prefix `l` of the input (`Touches`): it fails there, or it
succeeds having read `l`. Soundness, or the failing branch, says what kind of text `l` begins
(Lemmas/TokComplete.lean completes the token); completeness then runs the step on the completed
text — under `allOpts`, the record of `Viable`, because a completed string may hold a lone surrogate.
-/
namespace JsonVerif
open Lex

theorem adv_cut {s s1 : PS} {l x : List Char} (ha : Adv s s1) (hs : s.rest = l ++ x)
    (hp : s1.pos = s.pos + utf8Len l) : s1.rest = x ∧ ∃ w, w = l ∧ s.rest = w ++ s1.rest := by
  obtain ⟨⟨w, e, hpw⟩, _, _⟩ := ha
  rw [hs] at e
  obtain ⟨h1, h2⟩ := cut_unique e (by omega)
  exact ⟨h2.symm, w, h1.symm, by rw [hs, h1, h2]⟩

/-- a step that stops where `l` ends has read `l`: whatever soundness says it read is `l` -/
theorem read_eq {s s1 : PS} {l z t : List Char} (ha : Adv s s1) (hs : s.rest = l ++ z)
    (hp : s1.pos = s.pos + utf8Len l) (hr : s.rest = t ++ s1.rest) : l = t :=
  (cut_unique (hs.symm.trans hr) (by have := pos_of ha hr; omega)).1

/-- the result `r` of a step run at `s` touches the end of the prefix `l`: an unexpected character
    (or the end of the input) is reported there, or the step succeeded and stopped there -/
def Touches {α : Type} (r : Except PErr (α × PS)) (s : PS) (l : List Char) : Prop :=
  (∃ c, r = .error (.unexpected (s.pos + utf8Len l) c)) ∨
  (∃ a s1, r = .ok (a, s1) ∧ s1.pos = s.pos + utf8Len l)

/-- a successful step that stops at the end of `l` and read a text `t` of the kind `X`: `l` is `t` -/
theorem touch_read {X : List Char → Prop} {s s1 : PS} {l z t : List Char} (ha : Adv s s1)
    (hs : s.rest = l ++ z) (hp : s1.pos = s.pos + utf8Len l) (hr : s.rest = t ++ s1.rest) (ht : X t) :
    ∃ comp, X (l ++ comp) :=
  ⟨[], by rw [List.append_nil, read_eq ha hs hp hr]; exact ht⟩

/-- A program that skips whitespace first and reports an unexpected character after `l`. Cut `l`
    against the whitespace `w` skipped: `l` ends within `w` (so `l` is whitespace; that the error
    forces `l = w` is not needed), or it goes on past `w` with a first character `d`, and the rest
    of the program reports the error after what is left of `l`. The offset is a variable `q` so that
    after a bracket or comma it can be given in the form `adv_pos`. -/
theorem skipWs_fail {α : Type} {k : Unit → Lex α} {s : PS} {l z : List Char} {q : Nat} {c : Option Char}
    (hs : s.rest = l ++ z) (hq : q = s.pos + utf8Len l)
    (h : bind (lift skipWs) k s = .error (.unexpected q c)) :
    IsWsL l ∨ ∃ sb w d l3, IsWsL w ∧ l = w ++ d :: l3 ∧ sb.rest = d :: l3 ++ z ∧
      k () sb = .error (.unexpected (sb.pos + utf8Len (d :: l3)) c) := by
  rcases bind_error.1 h with h | ⟨_, sb, h2, e1⟩
  · exact absurd (lift_error.1 h) skipWs_no_unexpected
  obtain ⟨w, hw, hws, hp, _⟩ := skipWs_span (lift_ok.1 h2)
  rw [hs] at hw
  rcases List.append_eq_append_iff.1 hw with ⟨a, rfl, _⟩ | ⟨x, rfl, hx⟩
  · exact .inl fun c hc => hws c (List.mem_append_left _ hc)
  · cases x with
    | nil => exact .inl (by simpa using hws)
    | cons d l3 =>
      rw [hq, utf8Len_append, ← Nat.add_assoc, ← hp] at e1
      exact .inr ⟨sb, w, d, l3, hws, rfl, hx, e1⟩

theorem adv_pos (s : PS) (c : Char) (r l : List Char) :
    s.pos + utf8Len (c :: l) = (s.adv c r).pos + utf8Len l := (Nat.add_assoc _ _ _).symm

theorem pos_cons_ne (p : Nat) (d : Char) (l : List Char) : p + utf8Len (d :: l) ≠ p := by
  have := utf8Size_pos d; simp only [utf8Len_cons]; omega

theorem unexpectedHere_ne {α : Type} {s : PS} {d : Char} {l : List Char} {c : Option Char} :
    (unexpectedHere : Lex α) s ≠ .error (.unexpected (s.pos + utf8Len (d :: l)) c) :=
  fun h => pos_cons_ne _ _ _ (PErr.unexpected.inj (Except.error.inj h)).1.symm

theorem expectChar_unexpected {d : Char} {s : PS} {q : Nat} {c : Option Char}
    (h : expectChar d s = .error (.unexpected q c)) : q = s.pos := by
  unfold expectChar at h
  split at h
  · exact (PS.eofErr_unexpected (Except.error.inj h)).1
  · split at h
    · cases h
    · cases h; rfl

/-- `key ws :` that stopped after `l`: `l` begins a key and its colon -/
theorem lexKeyColon_fail_prefix {s : PS} {l z : List Char} {c : Option Char} (hs : s.rest = l ++ z)
    (h : lexKeyColon strictOpts s = .error (.unexpected (s.pos + utf8Len l) c)) :
    ∃ comp k key w2, l ++ comp = k ++ w2 ++ [':'] ∧ LString allOpts k key ∧ IsWsL w2 := by
  have h := ofTriple_error.2 h
  rw [lexKeyColon_eq, bind_reserve] at h
  rcases bind_error.1 h with h | ⟨key, sa, h1, h⟩
  · obtain ⟨comp, str, hk⟩ := lexString_fail_prefix (s := s.reserve) hs h
    exact ⟨comp ++ [':'], l ++ comp, str, [], by simp, hk, .nil⟩
  rcases bind_error.1 h with h | ⟨_, sb, h2, h⟩
  · exact absurd (lift_error.1 h) skipWs_no_unexpected
  -- the key and the whitespace after it were read in full; the colon is missing
  have h2 := lift_ok.1 h2
  have ha := (lexString_adv h1).trans (skipWs_adv h2)
  have hq := expectChar_unexpected (lift_error.1 (bind_pure_error h))
  -- the completed texts are texts of `allOpts`: so is the key the strict lexer read
  obtain ⟨t, ht, hk⟩ := Len.lexString_sound (lexString_mono (o := allOpts) h1)
  obtain ⟨w2, hw2, hws, _⟩ := skipWs_span h2
  have hl : l = t ++ w2 := read_eq ha hs hq.symm (by rw [ht, hw2, List.append_assoc])
  exact ⟨[':'], t, key, w2, by rw [hl], hk, hws⟩

/-- closing a container after its bracket reports no unexpected character -/
theorem closer_unexpected {α : Type} {i : Nat} {a : α} {s : PS} {q : Nat} {c : Option Char} :
    closer i a s ≠ .error (.unexpected q c) := by
  intro h
  rcases bind_error.1 h with h | ⟨_, s1, _, h⟩
  · exact next_ne_error h
  · cases (endFragment_error.1 (close_error.1 h)).2

/-- the common opening of `startArray` and `startObject`: an unexpected character is reported by
    the bracket itself or by what comes after it -/
theorem opener_unexpected {d : Char} {K : Nat → Lex Fragment} {s : PS} {q : Nat} {c : Option Char}
    (h : (bind reserve fun i => bind (lift (expectChar d)) fun _ => K i) s = .error (.unexpected q c)) :
    q = s.pos ∨ ∃ r, s.rest = d :: r ∧ K s.cm.size (s.reserve.adv d r) = .error (.unexpected q c) := by
  rcases bind_error.1 (bind_reserve ▸ h) with h | ⟨_, s1, h1, e2⟩
  · exact .inl (expectChar_unexpected (s := s.reserve) (lift_error.1 h))
  rw [expectChar_eq] at h1
  obtain ⟨d', r, hr, h2⟩ := peekC_ok.1 h1
  rcases ite_eq.1 h2 with ⟨rfl, h3⟩ | ⟨_, h3⟩
  · cases (next_ok hr).1 h3
    exact .inr ⟨r, hr, e2⟩
  · cases h3

/-- `re` replaces the rest of the input only -/
theorem Post.of_re {s s' : PS} {x r : List Char} (p : Post (s.re x) s' r) : Post s s' r :=
  ⟨p.rest, p.bad, p.cm⟩

/-- the outcome of completing a `parseFragment` that stopped after `l`: a complete value, or an
    object that has just read its first key and colon. What follows a value has to begin with a
    character of the context's follow set (`FollowOK`: the number scanner checks it); after the colon
    anything may follow. -/
def FragDone (ctx : Ctx) (s : PS) (l comp : List Char) : Prop :=
  (∀ r, FollowOK ctx r → ∃ v s', parseFragment allOpts ctx (s.re (l ++ comp ++ r)) = .ok (.value v, s') ∧
      Post s s' r) ∨
  (∀ r, ∃ key e s', parseFragment allOpts ctx (s.re (l ++ comp ++ r)) = .ok (.beginObject s.cm.size key e, s') ∧
      Post s s' r ∧ s.cm.size < s'.cm.size ∧ e < s'.cm.size)

/-- what `parseFragment` accepts in one step: whitespace, then a scalar or empty container, or an
    object up to its first colon -/
inductive FragText : List Char → Prop
  | leaf {w t : List Char} {v : JValue} : IsWsL w → LValue allOpts t v → IsLeaf v → FragText (w ++ t)
  | key {w w0 k key w2 : List Char} : IsWsL w → IsWsL w0 → LString allOpts k key → IsWsL w2 →
      FragText (w ++ '{' :: (w0 ++ k ++ w2 ++ [':']))

theorem FragText.done {ctx : Ctx} {s : PS} {l comp x : List Char} (h : FragText x) (hb : s.bad = false)
    (hx : l ++ comp = x) : FragDone ctx s l comp := by
  cases h with
  | @leaf w t v hw hv hl =>
    refine .inl fun r hf => ?_
    obtain ⟨s', h1, p1⟩ := Len.parseFragment_leaf_complete (s := s.re (l ++ comp ++ r))
      hv hl (by simp [hx]) hw hf hb
    exact ⟨v, s', h1, p1.of_re⟩
  | @key w w0 k key w2 hw hw0 hk hw2 =>
    refine .inr fun r => ?_
    obtain ⟨e, s', h1, p1, c⟩ := Len.parseFragment_key_complete (ctx := ctx)
      (s := s.re (l ++ comp ++ r)) (r := r) (by simp [hx]) hw hw0 hk hw2 hb
    exact ⟨key, e, s', h1, p1.of_re, c⟩

theorem parseFragment_touch_text {ctx : Ctx} {s : PS} {l z : List Char} (hs : s.rest = l ++ z)
    (h : Touches (parseFragment strictOpts ctx s) s l) :
    ∃ comp, FragText (l ++ comp) := by
  rcases h with ⟨c, h⟩ | ⟨f, s1, h, hp⟩
  · rw [parseFragment_eq] at h
    rcases skipWs_fail hs rfl h with hl | ⟨sb, w, d, l3, hw, rfl, hr, e1⟩
    · -- nothing of a token was read: any value will do
      exact ⟨['0'], .leaf hl (.number _ gnumber_zero) trivial⟩
    rw [peekC_cons hr] at e1
    -- a token begun after the whitespace `w` and completed by `comp` to a scalar or empty container
    have leaf : ∀ comp v, LValue allOpts (d :: l3 ++ comp) v → IsLeaf v →
        ∃ comp, FragText (w ++ d :: l3 ++ comp) := fun comp _ hv hleaf =>
      ⟨comp, by rw [List.append_assoc]; exact .leaf hw hv hleaf⟩
    rcases ite_eq.1 e1 with ⟨_, h⟩ | ⟨_, e2⟩
    · obtain ⟨comp, e⟩ := lexNull_fail_prefix hr (lift_error.1 (bind_pure_error h))
      exact leaf comp .null (e ▸ .null) trivial
    rcases ite_eq.1 e2 with ⟨_, h⟩ | ⟨_, e3⟩
    · obtain ⟨comp, e | e⟩ := lexBool_fail_prefix hr (bind_pure_error h)
      · exact leaf comp (.bool true) (e ▸ .true) trivial
      · exact leaf comp (.bool false) (e ▸ .false) trivial
    rcases ite_eq.1 e3 with ⟨_, h⟩ | ⟨_, e4⟩
    · obtain ⟨comp, hn⟩ := lexNumber_fail_prefix hr (bind_pure_error h)
      exact leaf comp _ (.number _ hn) trivial
    rcases ite_eq.1 e4 with ⟨_, h⟩ | ⟨_, e5⟩
    · obtain ⟨comp, str, hk⟩ := lexString_fail_prefix hr (bind_pure_error h)
      exact leaf comp _ (.string _ _ hk) trivial
    rcases ite_eq.1 e5 with ⟨_, h⟩ | ⟨_, e6⟩
    · -- `[`: reading the bracket and the whitespace after it cannot fail this way
      rw [startArray_eq] at h
      rcases opener_unexpected h with hq | ⟨r, _, h⟩
      · exact absurd hq (pos_cons_ne _ _ _)
      rcases bind_error.1 h with h | ⟨_, s2, _, h⟩
      · exact absurd (lift_error.1 h) skipWs_no_unexpected
      rcases ite_eq.1 h with ⟨_, h⟩ | ⟨_, h⟩
      · exact absurd h closer_unexpected
      · cases h
    rcases ite_eq.1 e6 with ⟨_, h⟩ | ⟨_, h⟩
    · rw [startObject_eq] at h
      rcases opener_unexpected h with hq | ⟨r, hr', h⟩
      · exact absurd hq (pos_cons_ne _ _ _)
      rw [hr] at hr'; cases hr'  -- the bracket read is the `d` looked at
      rcases skipWs_fail rfl (adv_pos ..) h with hl3 | ⟨s2, w0, d2, l5, hw0, rfl, hr5, h⟩
      · -- the brace and whitespace were read in full: close the object at once
        exact leaf ['}'] (.object []) (by simpa using LValue.objEmpty (o := allOpts) l3 hl3) trivial
      rcases ite_eq.1 h with ⟨_, h⟩ | ⟨_, h⟩
      · exact absurd h closer_unexpected
      rw [startObjectKey_eq] at h
      obtain ⟨comp, k, key, w2, hc, hk, hw2⟩ :=
        lexKeyColon_fail_prefix hr5 (ofTriple_error.1 (bind_pure_error h))
      exact ⟨comp, by simpa [hc] using FragText.key hw hw0 hk hw2⟩
    · exact absurd h unexpectedHere_ne
  · have hspec := Len.parseFragment_span (parseFragment_mono (o := allOpts) h)
    have ha := parseFragment_adv h
    cases f with
    | value v =>
      obtain ⟨w, t, hr, hws, hv, hleaf, _⟩ := hspec
      exact touch_read ha hs hp hr (.leaf hws hv hleaf)
    | beginArray i =>
      obtain ⟨_, w, w0, hr, hws, hws0, _⟩ := hspec
      rw [read_eq (t := w ++ '[' :: w0) ha hs hp (by simpa using hr)]
      exact ⟨[']'], by simpa using FragText.leaf hws (LValue.arrEmpty (o := allOpts) w0 hws0) trivial⟩
    | beginObject i key e =>
      obtain ⟨_, _, w, w0, k, w2, hr, hws, hws0, hk, hws2, _⟩ := hspec
      exact touch_read ha hs hp (by simpa using hr) (.key hws hws0 hk hws2)

theorem parseFragment_touch {ctx : Ctx} {s : PS} {l z : List Char} (hs : s.rest = l ++ z) (hb : s.bad = false)
    (h : (∃ c, parseFragment strictOpts ctx s = .error (.unexpected (s.pos + utf8Len l) c)) ∨
         (∃ f s1, parseFragment strictOpts ctx s = .ok (f, s1) ∧ s1.pos = s.pos + utf8Len l)) :
    ∃ comp, FragDone ctx s l comp :=
  (parseFragment_touch_text hs h).imp fun _ ht => ht.done hb rfl

/-- the outcome of completing a `contArray` that stopped after `l`: the array is closed, or an item
    follows -/
def ContArrDone (i : Nat) (s : PS) (l comp : List Char) : Prop :=
  (∀ r, ∃ s', contArray i (s.re (l ++ comp ++ r)) = .ok (.end_, s') ∧ Post s s' r) ∨
  (∀ r, ∃ s', contArray i (s.re (l ++ comp ++ r)) = .ok (.item, s') ∧ Post s s' r)

theorem ContArrText.done {i : Nat} {s : PS} {l comp x : List Char} {c : ArrCont} (h : ContArrText c x)
    (hb : s.bad = false) (hi : i < s.cm.size) (hx : l ++ comp = x) : ContArrDone i s l comp := by
  cases c with
  | end_ =>
    obtain ⟨w, hw, rfl⟩ := h
    refine .inl fun r => ?_
    obtain ⟨s', h1, p1⟩ := contArray_end_complete (s := s.re (l ++ comp ++ r)) (x := r)
      (by simp [hx]) hw hb hi
    exact ⟨s', h1, p1.of_re⟩
  | item =>
    obtain ⟨w, hw, rfl⟩ := h
    refine .inr fun r => ?_
    obtain ⟨s', h1, p1⟩ := contArray_item_complete (i := i) (s := s.re (l ++ comp ++ r)) (x := r)
      (by simp [hx]) hw hb
    exact ⟨s', h1, p1.of_re⟩

theorem contArray_touch_text {i : Nat} {s : PS} {l z : List Char} (hs : s.rest = l ++ z)
    (h : Touches (contArray i s) s l) :
    ∃ comp c, ContArrText c (l ++ comp) := by
  rcases h with ⟨c, h⟩ | ⟨k, s1, h, hp⟩
  · -- failed: only whitespace was read
    rw [contArray_eq] at h
    rcases skipWs_fail hs rfl h with hl | ⟨sb, w, d, l3, hw, rfl, hr, e1⟩
    · exact ⟨[']'], .end_, l, hl, rfl⟩
    exfalso
    rw [peekC_cons hr] at e1
    rcases ite_eq.1 e1 with ⟨_, h⟩ | ⟨_, e2⟩
    · rw [bind_next hr] at h; cases h
    rcases ite_eq.1 e2 with ⟨_, h⟩ | ⟨_, h⟩
    · exact closer_unexpected h
    · exact unexpectedHere_ne h
  · obtain ⟨t, hr, ht⟩ := contArray_sound h
    exact (touch_read (contArray_adv h) hs hp hr ht).imp fun _ ht => ⟨k, ht⟩

theorem contArray_touch {i : Nat} {s : PS} {l z : List Char} (hs : s.rest = l ++ z) (hb : s.bad = false)
    (hi : i < s.cm.size)
    (h : (∃ c, contArray i s = .error (.unexpected (s.pos + utf8Len l) c)) ∨
         (∃ k s1, contArray i s = .ok (k, s1) ∧ s1.pos = s.pos + utf8Len l)) :
    ∃ comp, ContArrDone i s l comp :=
  (contArray_touch_text hs h).imp fun _ ⟨_, ht⟩ => ht.done hb hi rfl

/-- the outcome of completing a `contObject` that stopped after `l`: the object is closed, or the
    next key and its colon have been read -/
def ContObjDone (i : Nat) (s : PS) (l comp : List Char) : Prop :=
  (∀ r, ∃ s', contObject allOpts i (s.re (l ++ comp ++ r)) = .ok (.end_, s') ∧ Post s s' r) ∨
  (∀ r, ∃ key e s', contObject allOpts i (s.re (l ++ comp ++ r)) = .ok (.entry key e, s') ∧ Post s s' r ∧
      e < s'.cm.size)

theorem ContObjText.done {i : Nat} {s : PS} {l comp x : List Char} {c : ObjCont}
    (h : ContObjText allOpts c x) (hb : s.bad = false) (hi : i < s.cm.size) (hx : l ++ comp = x) :
    ContObjDone i s l comp := by
  cases c with
  | end_ =>
    obtain ⟨w, hw, rfl⟩ := h
    refine .inl fun r => ?_
    obtain ⟨s', h1, p1⟩ := Len.contObject_end_complete (o := allOpts)
      (s := s.re (l ++ comp ++ r)) (x := r) (by simp [hx]) hw hb hi
    exact ⟨s', h1, p1.of_re⟩
  | entry key e =>
    obtain ⟨w, w1, k, w2, hw, hw1, hk, hw2, rfl⟩ := h
    refine .inr fun r => ?_
    obtain ⟨s', e, h1, p1, he⟩ := Len.contObject_entry_complete (o := allOpts) (i := i)
      (s := s.re (l ++ comp ++ r)) (x := r) (by simp [hx]) hw hw1 hk hw2 hb
    exact ⟨key, e, s', h1, p1.of_re, he⟩

theorem contObject_touch_text {i : Nat} {s : PS} {l z : List Char} (hs : s.rest = l ++ z)
    (h : Touches (contObject strictOpts i s) s l) :
    ∃ comp c, ContObjText allOpts c (l ++ comp) := by
  rcases h with ⟨c, h⟩ | ⟨k, s1, h, hp⟩
  · rw [contObject_eq] at h
    rcases skipWs_fail hs rfl h with hl | ⟨sb, w, d, l3, hw, rfl, hr, e1⟩
    · -- close the object right after the whitespace
      exact ⟨['}'], .end_, l, hl, rfl⟩
    rw [peekC_cons hr] at e1
    rcases ite_eq.1 e1 with ⟨hd, h⟩ | ⟨_, e2⟩
    · subst hd
      rw [bind_next hr] at h
      rcases skipWs_fail rfl (adv_pos ..) h with hl3 | ⟨sc, w1, d2, l5, hw1, rfl, hr5, h⟩
      · -- comma and whitespace were read in full: supply an entry
        exact ⟨['"', '"', ':'], .entry [] 0, w, l3, _, [], hw, hl3, lstring_empty _, .nil, by simp⟩
      obtain ⟨comp, k, key, w2, hc, hk, hw2⟩ :=
        lexKeyColon_fail_prefix hr5 (ofTriple_error.1 (bind_pure_error h))
      exact ⟨comp, .entry key 0, w, w1, k, w2, hw, hw1, hk, hw2, by simp [hc]⟩
    exfalso
    rcases ite_eq.1 e2 with ⟨_, h⟩ | ⟨_, h⟩
    · exact closer_unexpected h
    · exact unexpectedHere_ne h
  · obtain ⟨t, hr, ht⟩ := Len.contObject_sound (contObject_mono (o := allOpts) h)
    exact (touch_read (contObject_adv h) hs hp hr ht).imp fun _ ht => ⟨k, ht⟩

theorem contObject_touch {i : Nat} {s : PS} {l z : List Char} (hs : s.rest = l ++ z) (hb : s.bad = false)
    (hi : i < s.cm.size)
    (h : (∃ c, contObject strictOpts i s = .error (.unexpected (s.pos + utf8Len l) c)) ∨
         (∃ k s1, contObject strictOpts i s = .ok (k, s1) ∧ s1.pos = s.pos + utf8Len l)) :
    ∃ comp, ContObjDone i s l comp :=
  (contObject_touch_text hs h).imp fun _ ⟨_, ht⟩ => ht.done hb hi rfl

end JsonVerif
