import JsonVerif.Lemmas.LexEq
/-!
# The frame lemma of the lexical layer, for the primitives and the raw scanners

`Adv s s'`: going from parser state `s` to `s'` consumed a prefix `w` of the input, advanced the
byte position by exactly the UTF-8 length of `w`, did not touch the stream-error flag, and did not
shrink the code map (what "no panic" lives on). This is the invariant
`position = utf8Len (consumed input)` that C05 and C07 rest on.
-/
namespace JsonVerif

def AdvL (l : List Char) (pos : Nat) (l' : List Char) (pos' : Nat) : Prop :=
  ∃ w, l = w ++ l' ∧ pos' = pos + utf8Len w

def Adv (s s' : PS) : Prop :=
  AdvL s.rest s.pos s'.rest s'.pos ∧ s'.bad = s.bad ∧ s.cm.size ≤ s'.cm.size

theorem AdvL.refl (l : List Char) (p : Nat) : AdvL l p l p := ⟨[], by simp, by simp⟩

theorem AdvL.trans {l1 p1 l2 p2 l3 p3} (h1 : AdvL l1 p1 l2 p2) (h2 : AdvL l2 p2 l3 p3) :
    AdvL l1 p1 l3 p3 := by
  obtain ⟨w1, e1, q1⟩ := h1
  obtain ⟨w2, e2, q2⟩ := h2
  exact ⟨w1 ++ w2, by rw [e1, e2, List.append_assoc], by rw [q2, q1, utf8Len_append, Nat.add_assoc]⟩

theorem AdvL.cons (c : Char) (r : List Char) (p : Nat) : AdvL (c :: r) p r (p + c.utf8Size) :=
  ⟨[c], by simp, by simp⟩

theorem AdvL.le {l l' : List Char} {p p' : Nat} (h : AdvL l p l' p') : p ≤ p' := by
  obtain ⟨_, _, hp⟩ := h; omega

theorem Adv.refl (s : PS) : Adv s s := ⟨AdvL.refl _ _, rfl, Nat.le_refl _⟩

theorem Adv.trans {a b c : PS} (h1 : Adv a b) (h2 : Adv b c) : Adv a c :=
  ⟨h1.1.trans h2.1, by rw [h2.2.1, h1.2.1], Nat.le_trans h1.2.2 h2.2.2⟩

theorem Adv.len {s s' : PS} (h : Adv s s') : s'.rest.length ≤ s.rest.length := by
  obtain ⟨⟨_, e, _⟩, _, _⟩ := h; rw [e]; simp

theorem adv_step {s : PS} {c : Char} {r : List Char} (h : s.rest = c :: r) : Adv s (s.adv c r) :=
  ⟨by rw [h]; exact AdvL.cons c r s.pos, rfl, Nat.le_refl _⟩

theorem adv_reserve (s : PS) : Adv s s.reserve :=
  ⟨AdvL.refl _ _, rfl, by simp [PS.reserve]⟩

theorem adv_end {s : PS} {i : Nat} {s' : PS} (h : s.endFragment i = .ok s') : Adv s s' := by
  obtain ⟨_, _, rfl⟩ := endFragment_ok.1 h
  exact ⟨AdvL.refl _ _, rfl, by simp⟩

theorem skipWsL_adv (l : List Char) (p : Nat) : AdvL l p (skipWsL l p).1 (skipWsL l p).2 := by
  induction l generalizing p with
  | nil => exact AdvL.refl _ _
  | cons c r ih =>
    simp only [skipWsL]
    split
    · exact (AdvL.cons c r p).trans (ih _)
    · exact AdvL.refl _ _

theorem skipWs_adv {s s' : PS} (h : skipWs s = .ok s') : Adv s s' := by
  rw [(skipWs_ok.1 h).1]
  exact ⟨skipWsL_adv _ _, rfl, Nat.le_refl _⟩

theorem numScan_adv {ctx : Ctx} {bad : Bool} {l : List Char} {pos : Nat} {n r : List Char} {p : Nat}
    (h : numScan ctx bad l pos = .ok (n, r, p)) : AdvL l pos r p := by
  obtain ⟨_, hv, _⟩ := numScan_ok.1 h
  obtain ⟨w, e, _, _, _, q⟩ := numLoop_ok_inv hv
  exact ⟨w, e, q⟩

theorem strStep_more_adv {o : ParseOptions} {bad : Bool} {acc : List Char} {high : Option (Nat × Nat)}
    {l : List Char} {pos : Nat} {a : List Char} {hi : Option (Nat × Nat)} {r : List Char} {p : Nat}
    (h : strStep o bad acc high l pos = .more a hi r p) : AdvL l pos r p := by
  obtain ⟨w, _, _, _, hl, hp, _⟩ := strStep_more_inv h
  exact ⟨w, hl, hp⟩

theorem strLoopAux_adv {o : ParseOptions} {bad : Bool} (fuel : List Char)
    {acc : List Char} {high : Option (Nat × Nat)} {l : List Char} {pos : Nat} {a r : List Char} {p q : Nat}
    (h : strLoopAux o bad fuel acc high l pos = .ok (a, r, p, q)) : AdvL l pos r p :=
  strLoopAux_ok_inv (I := fun _ l' p' => AdvL l pos l' p') (Q := fun _ r p _ => AdvL l pos r p)
    (fun _ hI hs => hI.trans (strStep_more_adv hs))
    (fun _ hI hs => by obtain ⟨rfl, rfl, _⟩ := strStep_done_inv hs; exact hI.trans (AdvL.cons _ _ _))
    h (AdvL.refl _ _)

theorem strScan_adv {o : ParseOptions} {bad : Bool} {l : List Char} {pos : Nat} {str r : List Char} {p : Nat}
    (h : strScan o bad l pos = .ok (str, r, p)) : AdvL l pos r p := by
  obtain ⟨_, hv⟩ := strScan_ok.1 h
  exact strLoopAux_adv l hv

end JsonVerif
