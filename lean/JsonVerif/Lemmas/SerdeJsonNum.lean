import JsonVerif.Model.SerdeJsonNum
import JsonVerif.Lemmas.SerdeJson
import JsonVerif.Lemmas.DeNum
import JsonVerif.Lemmas.CanonLaws
/-!
# The integer legs of the serde_json number conversion are exact (C18)

`sjConv ftbl (disp n) = some n` for every serde_json number in its representation invariant:
`PosInt` below 2^64, `NegInt` in [-2^63, 0), and a `Float` whose printed text is not an integer
literal and is sent to itself by the float leg (the one hypothesis left about the dependencies:
serde_json prints a double with a `.` or an exponent, and parsing that text gives the double back).
-/
namespace JsonVerif

/-- representation invariant of `serde_json::Number` (float: as far as the round trip needs it) -/
def SjNum.WF (ftbl : List Char → Option (List Char)) : SjNum → Prop
  | .pos n => n < 2 ^ 64
  | .neg i => -(2 ^ 63 : Int) ≤ i ∧ i < 0
  | .float t => parseKeyInt .u64 t = none ∧ parseKeyInt .i64 t = none ∧ ftbl t = some t

theorem sjConv_disp (ftbl : List Char → Option (List Char)) :
    ∀ n : SjNum, SjNum.WF ftbl n → sjConv ftbl n.disp = some n
  | .pos n, h => by
    have h' : n < 2 ^ 64 := h  -- `omega` does not unfold `SjNum.WF`
    have hb : IntW.u64.lo ≤ (n : Int) ∧ (n : Int) ≤ IntW.u64.hi := by
      simp only [IntW.lo, IntW.hi]; omega
    have hp : parseKeyInt .u64 (natText n) = some (n : Int) := by
      simp only [parseKeyInt, IntW.signed, parseIntR_natText]
      rw [if_pos hb]
    simp [sjConv, SjNum.disp, hp]
  | .neg i, h => by
    cases i with
    | ofNat k => exact absurd h.2 (by simp)
    | negSucc m =>
      have h1 : parseKeyInt .u64 (intText (Int.negSucc m)) = none := by
        rw [intText_negSucc]; simp [parseKeyInt, IntW.signed, parseIntR]
      have hb : -(2 ^ 63 : Int) ≤ Int.negSucc m := h.1
      have hb2 : IntW.i64.lo ≤ Int.negSucc m ∧ Int.negSucc m ≤ IntW.i64.hi := by
        simp only [IntW.lo, IntW.hi]; omega
      have h2 : parseKeyInt .i64 (intText (Int.negSucc m)) = some (Int.negSucc m) := by
        simp only [parseKeyInt, IntW.signed, parseIntR_neg]
        rw [if_pos hb2]
      simp only [sjConv, SjNum.disp, h1, h2]
      rw [if_pos (by omega)]
  | .float t, h => by
    simp [sjConv, SjNum.disp, h.1, h.2.1, h.2.2]

/-- whatever the conversion produces is in the representation invariant, given that the float leg
    only produces texts it sends to themselves -/
theorem sjConv_wf (ftbl : List Char → Option (List Char))
    (hf : ∀ t r, ftbl t = some r → SjNum.WF ftbl (.float r)) (n : List Char) (m : SjNum)
    (h : sjConv ftbl n = some m) : SjNum.WF ftbl m := by
  unfold sjConv at h
  split at h
  · rename_i u hu
    cases h
    have hb := parseKeyInt_bounds hu
    simp only [IntW.lo, IntW.hi] at hb
    show u.toNat < 2 ^ 64
    omega
  · split at h
    · rename_i i hi
      have hb := parseKeyInt_bounds hi
      simp only [IntW.lo, IntW.hi] at hb
      cases h
      split
      · rename_i hneg; exact ⟨by show -(2 ^ 63 : Int) ≤ i; omega, hneg⟩
      · show i.toNat < 2 ^ 64; omega
    · cases hr : ftbl n with
      | none => simp [hr] at h
      | some r => simp [hr] at h; subst h; exact hf n r hr

theorem strLt_irrefl (a : List Char) : strLt a a = false := by
  simp [strLt, cmpNats_refl]

theorem strLt_asymm (a b : List Char) (h : strLt a b = true) : strLt b a = false := by
  unfold strLt at *
  rw [cmpNats_swap]
  have : cmpNats (a.map Char.toNat) (b.map Char.toNat) = .lt := by simpa using h
  rw [this]; rfl

theorem strLt_trans (a b c : List Char) (h1 : strLt a b = true) (h2 : strLt b c = true) :
    strLt a c = true := by
  unfold strLt at *
  have e1 : cmpNats (a.map Char.toNat) (b.map Char.toNat) = .lt := by simpa using h1
  have e2 : cmpNats (b.map Char.toNat) (c.map Char.toNat) = .lt := by simpa using h2
  rw [cmpNats_trans e1 e2]; rfl

end JsonVerif
