import JsonVerif.Model.De
import Std.Data.String.ToInt
/-!
# Integers through text: printing (`to_string`) then parsing (`str::parse`, json-number's `as_u64` /
`as_i64`) gives the integer back; the bounds of the eight integer widths (`IntW.bounds`)
-/
namespace JsonVerif

theorem natText_eq (n : Nat) : natText n = Nat.toDigits 10 n := by
  simp [natText]

theorem ofList_natText (n : Nat) : String.ofList (natText n) = n.repr := by
  rw [natText_eq]; exact Nat.repr_eq_ofList_toDigits.symm

theorem intText_ofNat (n : Nat) : intText (Int.ofNat n) = natText n := by
  simp [intText, natText, Int.repr]

theorem intText_negSucc (m : Nat) : intText (Int.negSucc m) = '-' :: natText (m + 1) := by
  simp [intText, natText, Int.repr]

theorem asU64_natText (n : Nat) (h : n < 2 ^ 64) : asU64 (natText n) = some n := by
  unfold asU64
  rw [ofList_natText, Nat.toNat?_repr]
  simp [h]

theorem asI64_natText (n : Nat) (h : (n : Int) < 2 ^ 63) : asI64 (natText n) = some (n : Int) := by
  unfold asI64
  rw [ofList_natText]
  have : n.repr.toInt? = some (n : Int) := String.toInt?_eq_some_iff.2 (Or.inl ⟨n, Nat.toNat?_repr n, rfl⟩)
  rw [this]
  dsimp only
  rw [if_pos (by omega)]

theorem minus_not_nat (t : List Char) : (String.ofList ('-' :: t)).toNat? = none := by
  rw [String.toNat?_eq_none_iff]
  cases hb : (String.ofList ('-' :: t)).isNat with
  | false => rfl
  | true =>
    have := (String.isNat_iff.1 hb).2.1 '-' (by simp)
    simp at this

theorem asU64_neg (m : Nat) : asU64 (intText (Int.negSucc m)) = none := by
  unfold asU64
  rw [intText_negSucc, minus_not_nat]

theorem asI64_neg (m : Nat) (h : -(2 ^ 63 : Int) ≤ Int.negSucc m) :
    asI64 (intText (Int.negSucc m)) = some (Int.negSucc m) := by
  unfold asI64
  rw [intText_negSucc]
  have : (String.ofList ('-' :: natText (m + 1))).toInt? = some (Int.negSucc m) := by
    apply String.toInt?_eq_some_iff.2
    refine Or.inr ⟨(m + 1).repr, ?_, m + 1, Nat.toNat?_repr _, ?_⟩
    · rw [← ofList_natText]
      apply String.toList_inj.1
      simp
    · omega
  rw [this]
  dsimp only
  rw [if_pos (by omega)]

theorem asU64_lt {n : List Char} {u : Nat} (h : asU64 n = some u) : u < 2 ^ 64 := by
  unfold asU64 at h
  split at h
  · split at h
    · rename_i hlt; cases h; exact hlt
    · cases h
  · cases h

theorem asI64_bounds {n : List Char} {i : Int} (h : asI64 n = some i) : -(2 ^ 63 : Int) ≤ i ∧ i < 2 ^ 63 := by
  unfold asI64 at h
  split at h
  · split at h
    · rename_i hlt; cases h; exact hlt
    · cases h
  · cases h

theorem numEvent_natText (n : Nat) (h : n < 2 ^ 64) : numEvent (natText n) = .u64 n := by
  simp [numEvent, asU64_natText n h]

theorem numEvent_neg (m : Nat) (h : -(2 ^ 63 : Int) ≤ Int.negSucc m) :
    numEvent (intText (Int.negSucc m)) = .i64 (Int.negSucc m) := by
  simp [numEvent, asU64_neg, asI64_neg m h]

theorem parseNatR_natText (n : Nat) : parseNatR (natText n) = some n := by
  rw [natText_eq]
  unfold parseNatR
  have h1 : (Nat.toDigits 10 n).isEmpty = false := by
    cases h : Nat.toDigits 10 n with
    | nil => exact absurd h Nat.toDigits_ne_nil
    | cons _ _ => rfl
  have h2 : (Nat.toDigits 10 n).all Char.isDigit = true :=
    List.all_eq_true.2 fun c hc => Nat.isDigit_of_mem_toDigits (by omega) (by omega) hc
  simp [h1, h2, Nat.ofDigitChars_ten_toDigits]

theorem natText_head_digit (n : Nat) : ∃ c r, natText n = c :: r ∧ c.isDigit = true := by
  rw [natText_eq]
  cases h : Nat.toDigits 10 n with
  | nil => exact absurd h Nat.toDigits_ne_nil
  | cons c r =>
    exact ⟨c, r, rfl,
      Nat.isDigit_of_mem_toDigits (b := 10) (n := n) (by omega) (by omega) (by rw [h]; simp)⟩

theorem parseIntR_natText (s : Bool) (n : Nat) : parseIntR s (natText n) = some (n : Int) := by
  obtain ⟨c, r, h, hc⟩ := natText_head_digit n
  have hp := parseNatR_natText n
  rw [h] at hp ⊢
  have h1 : c ≠ '+' := by intro e; rw [e] at hc; simp at hc
  have h2 : c ≠ '-' := by intro e; rw [e] at hc; simp at hc
  unfold parseIntR
  split
  · rename_i heq; simp at heq; exact absurd heq.1 h1
  · rename_i heq; simp at heq; exact absurd heq.1 h2
  · simp [hp]

theorem parseIntR_neg (m : Nat) : parseIntR true (intText (Int.negSucc m)) = some (Int.negSucc m) := by
  rw [intText_negSucc]
  simp only [parseIntR, ↓reduceIte, parseNatR_natText]
  simp [Int.negSucc_eq]

theorem parseKeyInt_bounds {w : IntW} {k : List Char} {i : Int} (h : parseKeyInt w k = some i) :
    w.lo ≤ i ∧ i ≤ w.hi := by
  unfold parseKeyInt at h
  split at h
  · split at h
    · rename_i hb; cases h; exact hb
    · cases h
  · cases h

theorem IntW.bounds (w : IntW) : -(2 ^ 63 : Int) ≤ w.lo ∧ w.hi < 2 ^ 64 ∧ w.lo ≤ 0 ∧ 0 ≤ w.hi := by
  cases w <;> decide

theorem IntW.lo_unsigned (w : IntW) (h : w.signed = false) : w.lo = 0 := by
  revert h; cases w <;> decide

theorem IntW.hi_signed (w : IntW) (h : w.signed = true) : w.hi < 2 ^ 63 := by
  revert h; cases w <;> decide

end JsonVerif
