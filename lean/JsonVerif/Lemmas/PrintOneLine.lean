import JsonVerif.Lemmas.PrintP
import JsonVerif.Gen.PrintPresets
/-!
Consequences of theorem P: a record without limits prints everything in its one-line form, and the
one-line form under the compact record (`IsCompact`) is the reference serializer `refSerialize`
(C08, and the printing clause of C09).
-/
namespace JsonVerif

theorem withinLimit_none (len w : Nat) : withinLimit none len w = true := rfl

mutual
theorem inl_of_nolimit (o : PrintOptions) (ha : o.arrayLimit = none) (hb : o.objectLimit = none) :
    ∀ v, inl o v = true
  | .null | .bool _ | .number _ | .string _ => rfl
  | .array xs => by simp [inl, ha, withinLimit_none, inlL_of_nolimit o ha hb xs]
  | .object es => by simp [inl, hb, withinLimit_none, inlM_of_nolimit o ha hb es]
theorem inlL_of_nolimit (o : PrintOptions) (ha : o.arrayLimit = none) (hb : o.objectLimit = none) :
    ∀ xs, inlL o xs = true
  | [] => rfl
  | x :: xs => by simp [inlL, inl_of_nolimit o ha hb x, inlL_of_nolimit o ha hb xs]
theorem inlM_of_nolimit (o : PrintOptions) (ha : o.arrayLimit = none) (hb : o.objectLimit = none) :
    ∀ es, inlM o es = true
  | [] => rfl
  | (_, x) :: es => by simp [inlM, inl_of_nolimit o ha hb x, inlM_of_nolimit o ha hb es]
end

theorem spec_nolimit (o : PrintOptions) (ha : o.arrayLimit = none) (hb : o.objectLimit = none)
    (ind : Nat) (v : JValue) : specPrint o ind v = oneLine o v :=
  spec_inl o ind v (inl_of_nolimit o ha hb v)

/-- the compact record: every spacing is zero and there is no limit -/
def IsCompact (o : PrintOptions) : Prop :=
  o.arrayBegin = 0 ∧ o.arrayEnd = 0 ∧ o.arrayEmpty = 0 ∧ o.arrayBeforeComma = 0 ∧
  o.arrayAfterComma = 0 ∧ o.arrayLimit = none ∧ o.objectBegin = 0 ∧ o.objectEnd = 0 ∧
  o.objectEmpty = 0 ∧ o.objectBeforeComma = 0 ∧ o.objectAfterComma = 0 ∧
  o.objectBeforeColon = 0 ∧ o.objectAfterColon = 0 ∧ o.objectLimit = none

mutual
theorem oneLine_compact (o : PrintOptions) (h : IsCompact o) : ∀ v, oneLine o v = refSerialize v := by
  intro v
  cases v with
  | null | bool _ | number _ | string _ => rfl
  | array xs =>
    have ih := oneLineL_compact o h xs 0
    obtain ⟨hBegin, hEnd, hEmpty, _⟩ := h
    cases xs with
    | nil => simp [oneLine, refSerialize, refSerializeL, hEmpty, spaces]
    | cons x xs => simp [oneLine, refSerialize, hBegin, hEnd, spaces, ih]
  | object es =>
    have ih := oneLineM_compact o h es 0
    obtain ⟨_, _, _, _, _, _, hBegin, hEnd, hEmpty, _⟩ := h
    cases es with
    | nil => simp [oneLine, refSerialize, refSerializeM, hEmpty, spaces]
    | cons e es => simp [oneLine, refSerialize, hBegin, hEnd, spaces, ih]
theorem oneLineL_compact (o : PrintOptions) (h : IsCompact o) :
    ∀ xs i, oneLineL o xs i = refSerializeL xs i
  | [], _ => rfl
  | x :: xs, i => by
    have ihx := oneLine_compact o h x
    have ihl := oneLineL_compact o h xs (i + 1)
    obtain ⟨_, _, _, hBeforeComma, hAfterComma, _⟩ := h
    simp [oneLineL, refSerializeL, arrSep, hBeforeComma, hAfterComma, spaces, ihx, ihl]
theorem oneLineM_compact (o : PrintOptions) (h : IsCompact o) :
    ∀ es i, oneLineM o es i = refSerializeM es i
  | [], _ => rfl
  | (k, x) :: es, i => by
    have ihx := oneLine_compact o h x
    have ihl := oneLineM_compact o h es (i + 1)
    obtain ⟨_, _, _, _, _, _, _, _, _, hBeforeComma, hAfterComma, hBeforeColon, hAfterColon, _⟩ := h
    simp [oneLineM, refSerializeM, objSep, keyText, hBeforeComma, hAfterComma, hBeforeColon,
      hAfterColon, spaces, ihx, ihl]
end

theorem isCompact_compactPreset : IsCompact Gen.compactPreset := by unfold IsCompact; decide

theorem printWith_compact {o : PrintOptions} (h : IsCompact o) (ind : Nat) (v : JValue) :
    printWith o ind v = some (refSerialize v) := by
  have ⟨_, _, _, _, _, hArrayLimit, _, _, _, _, _, _, _, hObjectLimit⟩ := h
  rw [printer_eq_spec, spec_nolimit o hArrayLimit hObjectLimit, oneLine_compact o h]

end JsonVerif
