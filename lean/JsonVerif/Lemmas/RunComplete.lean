import JsonVerif.Lemmas.StepComplete
import JsonVerif.Lemmas.Close
import JsonVerif.Lemmas.Viable
/-!
# The input before an unexpected-character error is viable (C07, lower bound of the viable prefix)

`run_viable`, by induction along the run: the iterations that end strictly before the reported
offset are the same on every continuation (locality); the one that touches the offset is completed
by Lemmas/StepComplete.lean, and from the configuration it leads to the closing text `zcomp` makes
the run succeed (`goto_then_close`) — under `allOpts`, the record of `Viable`. `viable_before` is
the statement for `parseChars`.
-/
namespace JsonVerif

theorem zcomp_some_nil (v : JValue) : zcomp [] (some v) = [] := rfl

/-- an iteration on `l ++ comp ++ y` that leaves `y` unread, then the closing run on `y` (`hy` is
    `rfl` where a value is awaited, else `zcomp_closers`) -/
theorem goto_then_close {k k' : List StackItem} {w w' : Option JValue} {s s' : PS} {l comp y : List Char}
    (hg : Goto allOpts k w (s.re (l ++ comp ++ y)) k' w' s') (p : Post s s' y) (hb : s.bad = false)
    (hok : StackOk s'.cm.size k') (hy : y = zcomp k' w') :
    ∃ y res, run allOpts k w (s.re (l ++ y)) = .ok res :=
  have ⟨res, hres⟩ := run_close k' w' s' hok (p.bad_false hb) (p.rest.trans hy)
  ⟨comp ++ y, res, by rw [← List.append_assoc, run_goto hg]; exact hres⟩

theorem run_of_fragDone {k : List StackItem} {ctx : Ctx} {s : PS} {l comp : List Char}
    (hk : awaits k = some ctx) (hd : FragDone ctx s l comp) (hb : s.bad = false)
    (hok : StackOk s.cm.size k) : ∃ y res, run allOpts k none (s.re (l ++ y)) = .ok res := by
  rcases hd with hv | ho
  · obtain ⟨v, s', h1, p1⟩ := hv (closers k) (followOK_closers hk)
    exact goto_then_close (.frag hk h1) p1 hb (StackOk.mono p1.cm hok) (zcomp_closers (.inl rfl)).symm
  · -- an object that has just read its first key: a `0` for its value, then the brackets
    obtain ⟨key, e, s', h1, p1, c1, c2⟩ := ho ('0' :: '}' :: closers k)
    exact goto_then_close (.frag hk h1) p1 hb ⟨c1, c2, StackOk.mono p1.cm hok⟩ rfl

theorem run_of_contArrDone {s : PS} {l comp : List Char} {a : List JValue} {i : Nat} {k : List StackItem}
    {value : Option JValue}
    (hd : ContArrDone i s l comp) (hb : s.bad = false) (hk : StackOk s.cm.size (.array a i :: k)) :
    ∃ y res, run allOpts (.array a i :: k) value (s.re (l ++ y)) = .ok res := by
  rcases hd with he | hit
  · obtain ⟨s', h1, p1⟩ := he (closers k)
    exact goto_then_close (.arr h1) p1 hb (StackOk.mono p1.cm hk.2) (zcomp_closers (.inl rfl)).symm
  · obtain ⟨s', h1, p1⟩ := hit ('0' :: ']' :: closers k)
    exact goto_then_close (.arr h1) p1 hb (StackOk.mono (k := _ :: _) p1.cm hk) rfl

theorem run_of_contObjDone {s : PS} {l comp : List Char} {es : List JEntry} {i : Nat} {k : List StackItem}
    {value : Option JValue}
    (hd : ContObjDone i s l comp) (hb : s.bad = false) (hk : StackOk s.cm.size (.object es i :: k)) :
    ∃ y res, run allOpts (.object es i :: k) value (s.re (l ++ y)) = .ok res := by
  rcases hd with he | hen
  · obtain ⟨s', h1, p1⟩ := he (closers k)
    exact goto_then_close (.obj h1) p1 hb (StackOk.mono p1.cm hk.2) (zcomp_closers (.inl rfl)).symm
  · obtain ⟨key, e, s', h1, p1, c1⟩ := hen ('0' :: '}' :: closers k)
    exact goto_then_close (.obj h1) p1 hb ⟨p1.lt hk.1, c1, StackOk.mono p1.cm hk.2⟩ rfl

theorem run_viable (stack : List StackItem) (value : Option JValue) (s : PS) :
    ∀ (l z : List Char) (c : Option Char), s.rest = l ++ z → s.bad = false → StackOk s.cm.size stack →
      run strictOpts stack value s = .error (.unexpected (s.pos + utf8Len l) c) →
      ∃ y res, run allOpts stack value (s.re (l ++ y)) = .ok res := by
  induction stack, value, s using run_induct strictOpts with
  | @halt k w s r hh =>
    intro l z c hs hb hk h
    rw [run_halt hh] at h
    cases hh with
    | @finish v s =>
      rw [finish_eq] at h
      rcases skipWs_fail hs rfl h with hl | ⟨sb, _, d, l3, _, _, _, h⟩
      · -- only whitespace was read after the value: the text is already complete
        obtain ⟨s', h1, p1, _⟩ := skipWs_complete (s := s.re (l ++ [])) (r := []) (by simp) hl noWsHead_nil hb
        exact ⟨[], (v, s'), (run_halt .finish).trans (finish_ok.2 ⟨h1, p1.rest, rfl⟩)⟩
      · rcases Lex.ite_eq.1 h with ⟨_, h⟩ | ⟨_, h⟩
        · cases h
        · exact absurd h unexpectedHere_ne
    | frag hk' h1 =>
      cases h
      obtain ⟨comp, hd⟩ := parseFragment_touch hs hb (.inl ⟨c, h1⟩)
      exact run_of_fragDone hk' hd hb hk
    | entry h1 => cases h; cases (endFragment_error.1 h1).2
    | arr h1 =>
      cases h
      obtain ⟨comp, hd⟩ := contArray_touch hs hb hk.1 (.inl ⟨c, h1⟩)
      exact run_of_contArrDone hd hb hk
    | obj h1 =>
      cases h
      obtain ⟨comp, hd⟩ := contObject_touch hs hb hk.1 (.inl ⟨c, h1⟩)
      exact run_of_contObjDone hd hb hk
  | @goto k w s k' w' t hg ih =>
    intro l z c hs hb hk h
    rw [run_goto hg] at h
    -- where the iteration is the same on every continuation of `l`, the induction hypothesis applies
    have inside : ∀ r, t.rest = r ++ z → (∀ y, Goto allOpts k w (s.re (l ++ y)) k' w' (t.re (r ++ y))) →
        ∃ y res, run allOpts k w (s.re (l ++ y)) = .ok res := fun r hr hy => by
      -- `local_bound`: seen from `t`, which has `r` left of `l`, the reported offset is `t.pos + utf8Len r`
      obtain ⟨y, res, hrun⟩ := ih r z c hr (hg.adv.2.1 ▸ hb) (hg.stackOk hk)
        (local_bound hg.adv hs hr ▸ h)
      exact ⟨y, res, by rw [run_goto (hy y)]; exact hrun⟩
    rcases Nat.lt_or_eq_of_le (run_err h).pos_le with hlt | heq
    · -- it ends strictly before the offset: it is the same on every continuation (locality)
      obtain ⟨r, hr, hy⟩ := hg.mono.local (o := allOpts) hs hlt
      exact inside r hr hy
    -- it ends exactly at the offset: nothing was read, or the step has read `l`
    cases hg with
    | item => exact inside l hs fun _ => .item
    | entry h1 => exact inside l ((endFragment_rest h1).1 ▸ hs) fun _ => .entry (endFragment_re h1 _)
    | frag hk' h1 =>
      obtain ⟨comp, hd⟩ := parseFragment_touch hs hb (.inr ⟨_, _, h1, heq⟩)
      exact run_of_fragDone hk' hd hb hk
    | arr h1 =>
      obtain ⟨comp, hd⟩ := contArray_touch hs hb hk.1 (.inr ⟨_, _, h1, heq⟩)
      exact run_of_contArrDone hd hb hk
    | obj h1 =>
      obtain ⟨comp, hd⟩ := contObject_touch hs hb hk.1 (.inr ⟨_, _, h1, heq⟩)
      exact run_of_contObjDone hd hb hk

theorem viable_before (pre rest : List Char) (c : Option Char)
    (h : parseChars strictOpts (pre ++ rest) false = .error (.unexpected (utf8Len pre) c)) :
    C07.Viable pre := by
  obtain ⟨y, res, hrun⟩ := run_viable [] none { rest := pre ++ rest, bad := false, pos := 0, cm := #[] }
    pre rest c rfl rfl trivial (by simpa using parseChars_error.1 h)
  exact ⟨y, res.1, parse_sound_o allOpts (parseChars_ok.2 ⟨res.1, res.2, hrun, rfl⟩)⟩

end JsonVerif
