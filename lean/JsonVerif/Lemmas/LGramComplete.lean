import JsonVerif.Lemmas.LGramSound
/-!
# Completeness of the recursive-descent parser under any option record, against `LValue o`

Every lexer is run forwards on a text of the shape the grammar gives it. `Post s s' r`: the step from
`s` to `s'` left exactly `r`; what it says beyond the rest comes from the frame lemma `Adv`
(`Post.of_adv`). `LTail` is the member list of an object after its first `key ws :`, the shape
`rdMembers` works on. Then `rd_complete` by induction on the fuel.
Everywhere `s.bad = false`: the character stream does not end in a decoding error (`PS.bad`,
Model/ParseLex.lean: the `Err` item `peek_char` / `next_char` would meet behind the text; with it,
`skipWs` and the number scanner fail at the end of the input instead of stopping there).
The keyword lexers are run through their equations (`lexNull_eq`, `lexBool_eq`); the other forward
runs unfold the lexer's definition.
-/
namespace JsonVerif

structure Post (s s' : PS) (r : List Char) : Prop where
  rest : s'.rest = r
  bad : s'.bad = s.bad
  cm : s.cm.size ≤ s'.cm.size

theorem Post.trans {a b c : PS} {r1 r2 : List Char} (h1 : Post a b r1) (h2 : Post b c r2) : Post a c r2 :=
  ⟨h2.rest, by rw [h2.bad, h1.bad], Nat.le_trans h1.cm h2.cm⟩

/-- `Post` is the frame lemma `Adv` without the position, with the rest named: every lexer's `Post`
    follows from its `Adv` once what it leaves is known -/
theorem Post.of_adv {s s' : PS} {r : List Char} (h : Adv s s') (hr : s'.rest = r) : Post s s' r :=
  ⟨hr, h.2.1, h.2.2⟩

theorem Post.bad_false {s s' : PS} {r : List Char} (p : Post s s' r) (hb : s.bad = false) : s'.bad = false :=
  p.bad.trans hb

theorem Post.lt {s s' : PS} {r : List Char} {i : Nat} (p : Post s s' r) (h : i < s.cm.size) : i < s'.cm.size :=
  Nat.lt_of_lt_of_le h p.cm

/-- what is left after a run of whitespace was skipped: it does not start with whitespace -/
def NoWsHead (r : List Char) : Prop := ∀ c r', r = c :: r' → isWs c = false

theorem noWsHead_nil : NoWsHead [] := fun _ _ h => nomatch h

theorem noWsHead_cons {c : Char} {x : List Char} (hc : isWs c = false) : NoWsHead (c :: x) := by
  intro d r' e
  cases e
  exact hc

theorem noWsHead_of_head {t r : List Char} {c : Char} {x : List Char} (h : t = c :: x)
    (hc : isWs c = false) : NoWsHead (t ++ r) := by
  subst h
  exact noWsHead_cons hc

theorem endFragment_complete {s : PS} {i : Nat} (h : i < s.cm.size) :
    ∃ s', s.endFragment i = .ok s' ∧ Post s s' s.rest :=
  let ⟨s', h'⟩ := endFragment_total h
  ⟨s', h', .of_adv (adv_end h') (endFragment_rest h').1⟩

theorem skipWsL_complete (w r : List Char) (p : Nat) (hw : IsWsL w) (hr : NoWsHead r) :
    (skipWsL (w ++ r) p).1 = r := by
  induction w generalizing p with
  | nil =>
    cases r with
    | nil => rfl
    | cons c r' => simp [skipWsL, hr c r' rfl]
  | cons c w ih =>
    have hc : isWs c = true := hw c List.mem_cons_self
    simp only [List.cons_append, skipWsL, hc, if_true]
    exact ih _ (fun x hx => hw x (List.mem_cons_of_mem _ hx))

theorem skipWs_complete {s : PS} {w r : List Char} (hs : s.rest = w ++ r) (hw : IsWsL w)
    (hr : NoWsHead r) (hb : s.bad = false) :
    ∃ s', skipWs s = .ok s' ∧ Post s s' r ∧ s'.cm = s.cm := by
  unfold skipWs
  simp only [hb, Bool.and_false]
  refine ⟨_, rfl, ⟨?_, hb.symm, Nat.le_refl _⟩, rfl⟩
  simp only [hs]
  exact skipWsL_complete w r s.pos hw hr

theorem expectChar_complete {s : PS} {c : Char} {r : List Char} (hs : s.rest = c :: r) :
    ∃ s', expectChar c s = .ok s' ∧ Post s s' r ∧ s'.cm = s.cm := by
  unfold expectChar
  rw [hs]
  simp only [if_true]
  exact ⟨_, rfl, ⟨rfl, rfl, Nat.le_refl _⟩, rfl⟩

theorem expectChars_complete (cs : List Char) {s : PS} {r : List Char} (hs : s.rest = cs ++ r) :
    ∃ s', expectChars cs s = .ok s' ∧ Post s s' r ∧ s'.cm = s.cm := by
  induction cs generalizing s with
  | nil => exact ⟨s, rfl, ⟨by simpa using hs, rfl, Nat.le_refl _⟩, rfl⟩
  | cons c cs ih =>
    obtain ⟨s1, h1, p1, c1⟩ := expectChar_complete (s := s) (c := c) (r := cs ++ r) (by simpa using hs)
    obtain ⟨s2, h2, p2, c2⟩ := ih p1.rest
    refine ⟨s2, by simp only [expectChars, h1, h2], p1.trans p2, by rw [c2, c1]⟩

/-- a literal run right after `reserve` on a text that starts with its letters (the forward twin of
    `literal_spec`) -/
theorem literal_complete {α : Type} (cs : List Char) (a : α) {s : PS} {r : List Char}
    (hs : s.rest = cs ++ r) :
    ∃ s', Lex.literal cs s.cm.size a s.reserve = .ok (a, s') ∧ s'.rest = r := by
  obtain ⟨s1, h1, p1, c1⟩ := expectChars_complete cs (s := s.reserve) hs
  obtain ⟨s2, h2, r2⟩ := leaf_close (s := s) c1
  exact ⟨s2, Lex.literal_ok.2 ⟨rfl, s1, h1, h2⟩, r2.trans p1.rest⟩

theorem lexNull_complete {s : PS} {r : List Char} (hs : s.rest = ['n', 'u', 'l', 'l'] ++ r) :
    ∃ s', lexNull s = .ok s' ∧ Post s s' r := by
  obtain ⟨s', h, hr⟩ := literal_complete ['n', 'u', 'l', 'l'] () hs
  have h : lexNull s = .ok s' := Lex.lift_ok.1 (by rw [lexNull_eq, Lex.bind_reserve]; exact h)
  exact ⟨s', h, .of_adv (lexNull_adv h) hr⟩

theorem lexBool_complete {s : PS} {r : List Char} (b : Bool)
    (hs : s.rest = (if b then ['t', 'r', 'u', 'e'] else ['f', 'a', 'l', 's', 'e']) ++ r) :
    ∃ s', lexBool s = .ok (b, s') ∧ Post s s' r := by
  obtain ⟨s', h, hr⟩ := literal_complete _ b hs
  have h : lexBool s = .ok (b, s') := by
    rw [lexBool_eq, Lex.bind_reserve]
    cases b
    · rw [Lex.peekC_cons (show s.reserve.rest = 'f' :: _ from hs), if_neg (by decide), if_pos rfl]
      exact h
    · rw [Lex.peekC_cons (show s.reserve.rest = 't' :: _ from hs), if_pos rfl]
      exact h
  exact ⟨s', h, .of_adv (lexBool_adv h) hr⟩

theorem lexNumber_complete {ctx : Ctx} {s : PS} {n r : List Char} (hn : GNumber n)
    (hs : s.rest = n ++ r) (hf : FollowOK ctx r) (hb : s.bad = false) :
    ∃ s', lexNumber ctx s = .ok (n, s') ∧ Post s s' r := by
  obtain ⟨st, hl, ha⟩ := numLoop_complete (ctx := ctx) n (st := .init) [] r s.pos hn hf
  obtain ⟨s2, h2, r2⟩ := leaf_close (s := s)
    (s1 := { s.reserve with rest := r, pos := s.pos + utf8Len n }) rfl
  have h : lexNumber ctx s = .ok (n, s2) :=
    lexNumber_ok.2 ⟨r, _, numScan_ok.2 ⟨st, hs ▸ hl, by rw [hb, Bool.and_false], ha⟩, h2⟩
  exact ⟨s2, h, .of_adv (lexNumber_adv h) r2⟩

theorem contArray_item_complete {i : Nat} {s : PS} {w x : List Char} (hs : s.rest = w ++ ',' :: x)
    (hw : IsWsL w) (hb : s.bad = false) :
    ∃ s', contArray i s = .ok (.item, s') ∧ Post s s' x := by
  obtain ⟨s1, h1, p1, _⟩ := skipWs_complete hs hw (noWsHead_cons (by decide)) hb
  have h : contArray i s = .ok (.item, s1.adv ',' x) := by simp [contArray, h1, p1.rest]
  exact ⟨_, h, .of_adv (contArray_adv h) rfl⟩

/-- whitespace, then the closing bracket `d` of the fragment opened at index `i` (read backwards by
    `close_span`) -/
theorem close_complete {d : Char} (hd : isWs d = false) {i : Nat} {s : PS} {w x : List Char}
    (hs : s.rest = w ++ d :: x) (hw : IsWsL w) (hb : s.bad = false) (hi : i < s.cm.size) :
    ∃ s0 s', skipWs s = .ok s0 ∧ s0.rest = d :: x ∧ (s0.adv d x).endFragment i = .ok s' ∧
      s'.rest = x := by
  obtain ⟨s0, h0, p0, c0⟩ := skipWs_complete hs hw (noWsHead_cons hd) hb
  obtain ⟨s', h1, p1⟩ := endFragment_complete (s := s0.adv d x) (i := i) (c0 ▸ hi)
  exact ⟨s0, s', h0, p0.rest, h1, p1.rest⟩

theorem contArray_end_complete {i : Nat} {s : PS} {w x : List Char} (hs : s.rest = w ++ ']' :: x)
    (hw : IsWsL w) (hb : s.bad = false) (hi : i < s.cm.size) :
    ∃ s', contArray i s = .ok (.end_, s') ∧ Post s s' x := by
  obtain ⟨s0, s', h0, r0, h1, hx⟩ := close_complete (by decide) hs hw hb hi
  have h : contArray i s = .ok (.end_, s') := by simp [contArray, h0, r0, h1]
  exact ⟨s', h, .of_adv (contArray_adv h) hx⟩

/-- an opening bracket, whitespace: the common beginning of `startArray` and `startObject` (read
    backwards by `open_span`); `s2` has the code map of `s0` with the entry reserved for the container -/
theorem open_complete {op : Char} {s0 : PS} {w0 x : List Char} (hr : s0.rest = op :: (w0 ++ x))
    (hw0 : IsWsL w0) (hx : NoWsHead x) (hb : s0.bad = false) :
    ∃ s1 s2, expectChar op s0.reserve = .ok s1 ∧ skipWs s1 = .ok s2 ∧ Post s0.reserve s2 x ∧
      s2.cm = s0.reserve.cm := by
  obtain ⟨s1, h1, p1, c1⟩ := expectChar_complete (s := s0.reserve) hr
  obtain ⟨s2, h2, p2, c2⟩ := skipWs_complete p1.rest hw0 hx (p1.bad_false hb)
  exact ⟨s1, s2, h1, h2, p1.trans p2, c2.trans c1⟩

/-- … and the closing bracket `cl` right after it: an empty container (read backwards by `empty_span`) -/
theorem empty_complete {op cl : Char} (hcl : isWs cl = false) {s0 : PS} {w0 r : List Char}
    (hr : s0.rest = op :: (w0 ++ cl :: r)) (hw0 : IsWsL w0) (hb : s0.bad = false) :
    ∃ s1 s2 s3, expectChar op s0.reserve = .ok s1 ∧ skipWs s1 = .ok s2 ∧ s2.rest = cl :: r ∧
      (s2.adv cl r).endFragment s0.cm.size = .ok s3 ∧ s3.rest = r := by
  obtain ⟨s1, s2, h1, h2, p2, c2⟩ := open_complete hr hw0 (noWsHead_cons hcl) hb
  obtain ⟨s3, h3, r3⟩ := leaf_close (s := s0) (s1 := s2.adv cl r) c2
  exact ⟨s1, s2, s3, h1, h2, p2.rest, h3, r3⟩

theorem lstring_empty (o : ParseOptions) : LString o ['"', '"'] [] := .mk [] [] .nil

end JsonVerif

namespace JsonVerif.Len
variable {o : ParseOptions}

theorem lexString_complete {s : PS} {t cs r : List Char} (hg : LString o t cs) (hs : s.rest = t ++ r) :
    ∃ s', lexString o s = .ok (cs, s') ∧ Post s s' r :=
  let ⟨s', h, hr⟩ := (lexString_iff o s cs r).2 ⟨t, hs, hg⟩
  ⟨s', h, .of_adv (lexString_adv h) hr⟩

/-- the first character of a value: never whitespace, never the bracket that closes an array -/
theorem lvalue_head {t : List Char} {v : JValue} (h : LValue o t v) :
    ∃ c r, t = c :: r ∧ isWs c = false ∧ c ≠ ']' := by
  cases h with
  | number n hn =>
    obtain ⟨c, r, rfl, hc⟩ := gnumber_head hn
    refine ⟨c, r, rfl, (digit_or_minus_ne hc).2.2.2, ?_⟩
    rintro rfl
    exact hc.elim (by decide) (by decide)
  | string t cs hs => cases hs with | mk body cs hb => exact ⟨_, _, rfl, by decide, by decide⟩
  | _ => exact ⟨_, _, rfl, by decide, by decide⟩

theorem lexKeyColon_complete {s : PS} {k key w2 x : List Char} (hk : LString o k key)
    (hs : s.rest = k ++ w2 ++ ':' :: x) (hw : IsWsL w2) (hb : s.bad = false) :
    ∃ s', lexKeyColon o s = .ok (key, s.cm.size, s') ∧ Post s s' x ∧ s.cm.size < s'.cm.size := by
  obtain ⟨s1, h1, p1⟩ := lexString_complete (s := s.reserve) (r := w2 ++ ':' :: x) hk (by simpa using hs)
  obtain ⟨s2, h2, p2, c2⟩ := skipWs_complete p1.rest hw
    (noWsHead_cons (by decide)) (p1.bad_false hb)
  obtain ⟨s3, h3, p3, c3⟩ := expectChar_complete p2.rest
  have h : lexKeyColon o s = .ok (key, s.cm.size, s3) := by
    simp only [lexKeyColon, PS.beginFragment_fst, PS.beginFragment_snd, h1, h2, h3]
  refine ⟨s3, h, .of_adv (lexKeyColon_adv h) p3.rest, ?_⟩
  have := p1.cm; rw [reserve_cm, Array.size_push] at this
  rw [c3, c2]; omega

theorem gstring_head {k key : List Char} (h : LString o k key) : ∃ x, k = '"' :: x := by
  cases h with | mk body cs hb => exact ⟨_, rfl⟩

theorem contObject_entry_complete {i : Nat} {s : PS} {w w1 k key w2 x : List Char}
    (hs : s.rest = w ++ ',' :: (w1 ++ k ++ w2 ++ ':' :: x)) (hw : IsWsL w) (hw1 : IsWsL w1)
    (hk : LString o k key) (hw2 : IsWsL w2) (hb : s.bad = false) :
    ∃ s' e, contObject o i s = .ok (.entry key e, s') ∧ Post s s' x ∧ e < s'.cm.size := by
  obtain ⟨s1, h1, p1, c1⟩ := skipWs_complete hs hw (noWsHead_cons (by decide)) hb
  obtain ⟨kx, hkx⟩ := gstring_head hk
  obtain ⟨s2, h2, p2, c2⟩ := skipWs_complete (s := s1.adv ',' (w1 ++ k ++ w2 ++ ':' :: x)) (w := w1)
    (r := k ++ w2 ++ ':' :: x) (by simp [PS.adv]) hw1
    (by rw [hkx]; exact noWsHead_cons (by decide)) (p1.bad_false hb)
  obtain ⟨s3, h3, p3, c3⟩ := lexKeyColon_complete hk p2.rest hw2 (p2.bad_false (p1.bad_false hb))
  have h : contObject o i s = .ok (.entry key s2.cm.size, s3) := by
    simp only [contObject, h1, p1.rest, ↓reduceIte, h2, h3]
  exact ⟨s3, _, h, .of_adv (contObject_adv h) p3.rest, c3⟩

theorem contObject_end_complete {i : Nat} {s : PS} {w x : List Char} (hs : s.rest = w ++ '}' :: x)
    (hw : IsWsL w) (hb : s.bad = false) (hi : i < s.cm.size) :
    ∃ s', contObject o i s = .ok (.end_, s') ∧ Post s s' x := by
  obtain ⟨s0, s', h0, r0, h1, hx⟩ := close_complete (by decide) hs hw hb hi
  have h : contObject o i s = .ok (.end_, s') := by simp [contObject, h0, r0, h1]
  exact ⟨s', h, .of_adv (contObject_adv h) hx⟩

/-- the part of a non-empty object after its first `key ws :` — the shape `rdMembers` works on -/
inductive LTail o : List Char → List Char → List JEntry → Prop
  | one (w3 t w4 key : List Char) (v : JValue) : IsWsL w3 → LValue o t v → IsWsL w4 →
      LTail o (w3 ++ t ++ w4) key [(key, v)]
  | cons (w3 t w4 w1 k w2 ts key key' : List Char) (v : JValue) (es : List JEntry) :
      IsWsL w3 → LValue o t v → IsWsL w4 → IsWsL w1 → LString o k key' → IsWsL w2 → LTail o ts key' es →
      LTail o (w3 ++ t ++ w4 ++ ',' :: (w1 ++ k ++ w2 ++ ':' :: ts)) key ((key, v) :: es)

theorem _root_.JsonVerif.LMembers.toTail {tm : List Char} {es : List JEntry} (h : LMembers o tm es) :
    ∃ w1 k w2 key tl, tm = w1 ++ k ++ w2 ++ ':' :: tl ∧ IsWsL w1 ∧ LString o k key ∧ IsWsL w2 ∧ LTail o tl key es := by
  cases h with
  | one w1 k w2 w3 t w4 key v h1 hk h2 h3 hv h4 =>
    exact ⟨w1, k, w2, key, _, rfl, h1, hk, h2, .one w3 t w4 key v h3 hv h4⟩
  | cons w1 k w2 w3 t w4 ts key v es h1 hk h2 h3 hv h4 hts =>
    obtain ⟨w1', k', w2', key', tl', rfl, g1, gk, g2, gt⟩ := LMembers.toTail hts
    exact ⟨w1, k, w2, key, _, rfl, h1, hk, h2, .cons w3 t w4 w1' k' w2' tl' key key' v es h3 hv h4 g1 gk g2 gt⟩

/-- `startArray` eats the whitespace before the first item: the item list without it (what
    `parseFragment_arr_complete` hands on) -/
theorem _root_.JsonVerif.LItems.strip {t : List Char} {vs : List JValue} (h : LItems o t vs) :
    ∃ w1 t', t = w1 ++ t' ∧ IsWsL w1 ∧ LItems o t' vs ∧ ∃ c x, t' = c :: x ∧ isWs c = false ∧ c ≠ ']' := by
  cases h with
  | one w1 t w2 v h1 hv h2 =>
    obtain ⟨c, x, rfl, hc, hn⟩ := lvalue_head hv
    exact ⟨w1, [] ++ (c :: x) ++ w2, by simp, h1, .one [] _ w2 v IsWsL.nil hv h2, c, x ++ w2, by simp, hc, hn⟩
  | cons w1 t w2 ts v vs h1 hv h2 hts =>
    obtain ⟨c, x, rfl, hc, hn⟩ := lvalue_head hv
    exact ⟨w1, [] ++ (c :: x) ++ w2 ++ ',' :: ts, by simp, h1, .cons [] _ w2 ts v vs IsWsL.nil hv h2 hts,
      c, x ++ w2 ++ ',' :: ts, by simp, hc, hn⟩

theorem parseFragment_leaf_complete {ctx : Ctx} {s : PS} {w t r : List Char} {v : JValue}
    (hg : LValue o t v) (hleaf : IsLeaf v) (hs : s.rest = w ++ t ++ r) (hw : IsWsL w)
    (hf : FollowOK ctx r) (hb : s.bad = false) :
    ∃ s', parseFragment o ctx s = .ok (.value v, s') ∧ Post s s' r := by
  suffices ∃ s', parseFragment o ctx s = .ok (.value v, s') ∧ s'.rest = r from
    let ⟨s', h, hr⟩ := this; ⟨s', h, .of_adv (parseFragment_adv h) hr⟩
  obtain ⟨c0, x0, ht0, hc0, _⟩ := lvalue_head hg
  obtain ⟨s0, h0, p0, c0e⟩ := skipWs_complete (s := s) (w := w) (r := t ++ r) (by simpa using hs) hw
    (noWsHead_of_head ht0 hc0) hb
  cases hg with
  | null =>
    obtain ⟨s1, h1, p1⟩ := lexNull_complete p0.rest
    exact ⟨s1, by simp [parseFragment, h0, p0.rest, h1], p1.rest⟩
  | true =>
    obtain ⟨s1, h1, p1⟩ := lexBool_complete true p0.rest
    exact ⟨s1, by simp [parseFragment, h0, p0.rest, h1], p1.rest⟩
  | false =>
    obtain ⟨s1, h1, p1⟩ := lexBool_complete false p0.rest
    exact ⟨s1, by simp [parseFragment, h0, p0.rest, h1], p1.rest⟩
  | number n hn =>
    obtain ⟨c, x, rfl, hc⟩ := gnumber_head hn
    obtain ⟨s1, h1, p1⟩ := lexNumber_complete hn p0.rest hf (p0.bad_false hb)
    have f := digit_or_minus_ne hc
    have hd : (isDigit c || decide (c = '-')) = true := by
      rcases hc with hc | hc <;> simp [hc]
    refine ⟨s1, ?_, p1.rest⟩
    -- the dispatch on the first character: none of `n`, `t`, `f`, but a digit or `-`
    simp only [parseFragment, h0, p0.rest, List.cons_append, f.1, f.2.1, f.2.2.1, ↓reduceIte,
      decide_false, Bool.or_self, Bool.false_eq_true, hd, h1]
  | string t cs hstr =>
    obtain ⟨kx, rfl⟩ := gstring_head hstr
    obtain ⟨s1, h1, p1⟩ := lexString_complete hstr p0.rest
    exact ⟨s1, by simp [parseFragment, h0, p0.rest, isDigit, h1], p1.rest⟩
  | arrEmpty w0 hw0 =>
    obtain ⟨s1, s2, s3, h1, h2, r2, h3, r3⟩ := empty_complete (cl := ']') (by decide)
      (by simpa using p0.rest) hw0 (p0.bad_false hb)
    exact ⟨s3, by simp [parseFragment, h0, p0.rest, isDigit, startArray, h1, h2, r2, h3], r3⟩
  | objEmpty w0 hw0 =>
    obtain ⟨s1, s2, s3, h1, h2, r2, h3, r3⟩ := empty_complete (cl := '}') (by decide)
      (by simpa using p0.rest) hw0 (p0.bad_false hb)
    exact ⟨s3, by simp [parseFragment, h0, p0.rest, isDigit, startObject, h1, h2, r2, h3], r3⟩
  | arr ti vs hi =>
    cases hi <;> simp [IsLeaf] at hleaf
  | obj tm es hm =>
    cases hm <;> simp [IsLeaf] at hleaf

theorem parseFragment_arr_complete {ctx : Ctx} {s : PS} {w ti r : List Char} {vs : List JValue}
    (hi : LItems o ti vs) (hs : s.rest = w ++ '[' :: (ti ++ ']' :: r)) (hw : IsWsL w) (hb : s.bad = false) :
    ∃ s' ti', parseFragment o ctx s = .ok (.beginArray s.cm.size, s') ∧ Post s s' (ti' ++ ']' :: r) ∧
      LItems o ti' vs ∧ s'.rest.length < s.rest.length ∧ s.cm.size < s'.cm.size := by
  obtain ⟨w1, ti', rfl, hw1, hi', c, x, hcx, hc, hn⟩ := hi.strip
  obtain ⟨s0, h0, p0, c0⟩ := skipWs_complete hs hw (noWsHead_cons (by decide)) hb
  obtain ⟨s1, s2, h1, h2, p2, c2⟩ := open_complete (x := ti' ++ ']' :: r) (by simpa using p0.rest) hw1
    (noWsHead_of_head hcx hc) (p0.bad_false hb)
  have h : parseFragment o ctx s = .ok (.beginArray s.cm.size, s2) := by
    have hr2 : s2.rest = c :: (x ++ ']' :: r) := by rw [p2.rest, hcx]; simp
    simp [parseFragment, h0, p0.rest, isDigit, startArray, h1, h2, hr2, hn, c0]
  exact ⟨s2, ti', h, .of_adv (parseFragment_adv h) p2.rest, hi',
    by rw [p2.rest, hs]; simp only [List.length_append, List.length_cons]; omega,
    by rw [c2, ← c0, reserve_cm, Array.size_push]; exact Nat.lt_succ_self _⟩

/-- an object whose first key and colon have been read in full is announced on any continuation -/
theorem parseFragment_key_complete {ctx : Ctx} {s : PS} {w w0 k key w2 r : List Char}
    (hs : s.rest = w ++ '{' :: (w0 ++ k ++ w2 ++ ':' :: r)) (hw : IsWsL w) (hw0 : IsWsL w0)
    (hk : LString o k key) (hw2 : IsWsL w2) (hb : s.bad = false) :
    ∃ e s', parseFragment o ctx s = .ok (.beginObject s.cm.size key e, s') ∧ Post s s' r ∧
      s.cm.size < s'.cm.size ∧ e < s'.cm.size := by
  obtain ⟨kx, hkx⟩ := gstring_head hk
  obtain ⟨s0, h0, p0, c0⟩ := skipWs_complete hs hw (noWsHead_cons (by decide)) hb
  obtain ⟨s1, s2, h1, h2, p2, c2⟩ := open_complete (x := k ++ w2 ++ ':' :: r) (by simpa using p0.rest) hw0
    (by rw [hkx]; exact noWsHead_cons (by decide)) (p0.bad_false hb)
  obtain ⟨s3, h3, p3, c3⟩ := lexKeyColon_complete hk p2.rest hw2 (p2.bad_false (p0.bad_false hb))
  have hsz : s2.cm.size = s.cm.size + 1 := by rw [c2, ← c0, reserve_cm, Array.size_push]
  have h : parseFragment o ctx s = .ok (.beginObject s.cm.size key s2.cm.size, s3) := by
    have hr2 : s2.rest = '"' :: (kx ++ w2 ++ ':' :: r) := by rw [p2.rest, hkx]; simp
    simp [parseFragment, h0, p0.rest, isDigit, startObject, h1, h2, hr2, startObjectKey, h3, c0]
  exact ⟨_, s3, h, .of_adv (parseFragment_adv h) p3.rest, by omega, c3⟩

theorem parseFragment_obj_complete {ctx : Ctx} {s : PS} {w tm r : List Char} {es : List JEntry}
    (hm : LMembers o tm es) (hs : s.rest = w ++ '{' :: (tm ++ '}' :: r)) (hw : IsWsL w) (hb : s.bad = false) :
    ∃ s' key e tl, parseFragment o ctx s = .ok (.beginObject s.cm.size key e, s') ∧
      Post s s' (tl ++ '}' :: r) ∧ LTail o tl key es ∧ s'.rest.length < s.rest.length ∧
      s.cm.size < s'.cm.size ∧ e < s'.cm.size := by
  obtain ⟨w1, k, w2, key, tl, rfl, hw1, hk, hw2, htl⟩ := hm.toTail
  obtain ⟨e, s', h, p, c1, c2⟩ := parseFragment_key_complete (ctx := ctx) (r := tl ++ '}' :: r)
    (by simpa using hs) hw hw1 hk hw2 hb
  exact ⟨s', key, e, tl, h, p, htl,
    by rw [p.rest, hs]; simp only [List.length_append, List.length_cons]; omega, c1, c2⟩

theorem lvalue_kind {t : List Char} {v : JValue} (hg : LValue o t v) :
    IsLeaf v ∨ (∃ ti vs, t = '[' :: (ti ++ [']']) ∧ v = .array vs ∧ LItems o ti vs) ∨
      ∃ tm es, t = '{' :: (tm ++ ['}']) ∧ v = .object es ∧ LMembers o tm es := by
  cases hg with
  | arr ti vs hi => exact .inr (.inl ⟨ti, vs, rfl, rfl, hi⟩)
  | obj tm es hm => exact .inr (.inr ⟨tm, es, rfl, rfl, hm⟩)
  | _ => exact .inl trivial

/-- Completeness of the recursive-descent reference, by induction on the fuel. The bounds are what
    `machine_eq_rd` needs: it runs `rdDocument` at fuel `2 * s.rest.length + 1`; every call of `rdValue`
    on a container hands `rdItems` / `rdMembers` one fuel less for an input that is at least one
    character shorter, hence their `+ 2`. -/
theorem rd_complete : ∀ n,
    (∀ t v, LValue o t v → ∀ ctx (s : PS) w r, s.rest = w ++ t ++ r → IsWsL w → FollowOK ctx r →
      s.bad = false → 2 * s.rest.length + 1 ≤ n →
      ∃ s', rdValue o n ctx s = .ok (v, s') ∧ Post s s' r) ∧
    (∀ t vs, LItems o t vs → ∀ acc i (s : PS) r, s.rest = t ++ ']' :: r → s.bad = false → i < s.cm.size →
      2 * s.rest.length + 2 ≤ n →
      ∃ s', rdItems o n acc i s = .ok (.array (acc ++ vs), s') ∧ Post s s' r) ∧
    (∀ tl key es, LTail o tl key es → ∀ acc i e (s : PS) r, s.rest = tl ++ '}' :: r → s.bad = false →
      i < s.cm.size → e < s.cm.size → 2 * s.rest.length + 2 ≤ n →
      ∃ s', rdMembers o n acc i key e s = .ok (.object (acc ++ es), s') ∧ Post s s' r) := by
  intro n
  induction n with
  | zero => refine ⟨?_, ?_, ?_⟩ <;> intros <;> omega
  | succ n ih =>
    obtain ⟨ihV, ihI, ihM⟩ := ih
    refine ⟨?_, ?_, ?_⟩
    · intro t v hg ctx s w r hs hw hf hb hn
      rcases lvalue_kind hg with hl | ⟨ti, vs, rfl, rfl, hi⟩ | ⟨tm, es, rfl, rfl, hm⟩
      · obtain ⟨s', h, p⟩ := parseFragment_leaf_complete hg hl hs hw hf hb
        exact ⟨s', by simp only [rdValue, h], p⟩
      · obtain ⟨s1, ti', h1, p1, hi', hl1, hcm⟩ := parseFragment_arr_complete (ctx := ctx) (s := s) (w := w) (r := r) hi
            (by rw [hs]; simp) hw hb
        obtain ⟨s', h2, p2⟩ := ihI ti' _ hi' [] s.cm.size s1 r p1.rest (p1.bad_false hb) hcm (by omega)
        exact ⟨s', by simp only [rdValue, h1, h2, List.nil_append], p1.trans p2⟩
      · obtain ⟨s1, key, e, tl, h1, p1, htl, hl1, hcm, he⟩ := parseFragment_obj_complete (ctx := ctx) (s := s) (w := w) (r := r) hm
            (by rw [hs]; simp) hw hb
        obtain ⟨s', h2, p2⟩ := ihM tl key _ htl [] s.cm.size e s1 r p1.rest (p1.bad_false hb) hcm he (by omega)
        exact ⟨s', by simp only [rdValue, h1, h2, List.nil_append], p1.trans p2⟩
    · intro t vs hi acc i s r hs hb hicm hn
      cases hi with
      | one w1 tv w2 v h1 hv h2 =>
        obtain ⟨s1, hr1, p1⟩ := ihV tv v hv .array s w1 (w2 ++ ']' :: r) (by rw [hs]; simp) h1
          (followOK_ws h2 (by decide)) hb (by omega)
        obtain ⟨s2, hr2, p2⟩ := contArray_end_complete p1.rest h2 (p1.bad_false hb)
          (p1.lt hicm)
        exact ⟨s2, by simp only [rdItems, hr1, hr2], p1.trans p2⟩
      | cons w1 tv w2 ts v vs' h1 hv h2 hts =>
        obtain ⟨s1, hr1, p1⟩ := ihV tv v hv .array s w1 (w2 ++ ',' :: (ts ++ ']' :: r)) (by rw [hs]; simp) h1
          (followOK_ws h2 (by decide)) hb (by omega)
        obtain ⟨s2, hr2, p2⟩ := contArray_item_complete (i := i) p1.rest h2 (p1.bad_false hb)
        have p12 := p1.trans p2
        have hl2 : s2.rest.length < s.rest.length := by rw [p2.rest, hs]; simp only [List.length_append, List.length_cons]; omega
        obtain ⟨s3, hr3, p3⟩ := ihI ts vs' hts (acc ++ [v]) i s2 r p2.rest (p12.bad_false hb) (p12.lt hicm)
          (by omega)
        exact ⟨s3, by simp only [rdItems, hr1, hr2, hr3, List.append_assoc, List.singleton_append],
          p12.trans p3⟩
    · intro tl key es htl acc i e s r hs hb hicm hecm hn
      cases htl with
      | one w3 tv w4 _ v h3 hv h4 =>
        obtain ⟨s1, hr1, p1⟩ := ihV tv v hv .objectValue s w3 (w4 ++ '}' :: r) (by rw [hs]; simp) h3
          (followOK_ws h4 (by decide)) hb (by omega)
        obtain ⟨s2, hr2, p2⟩ := endFragment_complete (p1.lt hecm)
        have p12 := p1.trans p2
        obtain ⟨s3, hr3, p3⟩ := contObject_end_complete (o := o) (i := i) (p2.rest.trans p1.rest) h4
          (p12.bad_false hb) (p12.lt hicm)
        exact ⟨s3, by simp only [rdMembers, hr1, hr2, hr3], p12.trans p3⟩
      | cons w3 tv w4 w1 k w2 ts _ key' v es' h3 hv h4 h1 hk h2 hts =>
        obtain ⟨s1, hr1, p1⟩ := ihV tv v hv .objectValue s w3 (w4 ++ ',' :: (w1 ++ k ++ w2 ++ ':' :: (ts ++ '}' :: r)))
          (by rw [hs]; simp) h3 (followOK_ws h4 (by decide)) hb (by omega)
        obtain ⟨s2, hr2, p2⟩ := endFragment_complete (p1.lt hecm)
        have p12 := p1.trans p2
        obtain ⟨s3, e', hr3, p3, he'⟩ := contObject_entry_complete (i := i) (x := ts ++ '}' :: r)
          (p2.rest.trans p1.rest) h4 h1 hk h2 (p12.bad_false hb)
        have p13 := p12.trans p3
        have hl3 : s3.rest.length < s.rest.length := by rw [p3.rest, hs]; simp only [List.length_append, List.length_cons]; omega
        obtain ⟨s4, hr4, p4⟩ := ihM ts key' es' hts (acc ++ [(key, v)]) i e' s3 r p3.rest
          (p13.bad_false hb) (p13.lt hicm) he' (by omega)
        exact ⟨s4, by simp only [rdMembers, hr1, hr2, hr3, hr4, List.append_assoc, List.singleton_append],
          p13.trans p4⟩

theorem rdDocument_complete {text : List Char} {v : JValue} (h : LDoc o text v) (s : PS)
    (hs : s.rest = text) (hb : s.bad = false) (n : Nat) (hn : 2 * text.length + 1 ≤ n) :
    ∃ s', rdDocument o n s = .ok (v, s') := by
  obtain ⟨w1, t, w2, rfl, hw1, hg, hw2⟩ := h
  obtain ⟨s1, h1, p1⟩ := (rd_complete n).1 t v hg .none s w1 w2 hs hw1 (followOK_none_ws hw2) hb (by rw [hs]; omega)
  obtain ⟨s2, h2, p2, _⟩ := skipWs_complete (s := s1) (w := w2) (r := []) (by simpa using p1.rest) hw2
    noWsHead_nil (p1.bad_false hb)
  exact ⟨s2, by simp only [rdDocument, h1, h2, p2.rest]⟩

end JsonVerif.Len
