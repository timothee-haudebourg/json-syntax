import JsonVerif.Spec.PermEq
import JsonVerif.Lemmas.ValueInd
/-!
# `PermEq` (the specification side of C15) is symmetric and transitive

`PermEqM a b` is characterised through core's `List.Perm`: `b` is a permutation of a list that is
pointwise related to `a` (`PW`). Symmetry and transitivity follow by moving permutations across `PW`.
(Reflexivity is not stated: C15 has it for `ueq`, through `ueq_refl`.)
-/
namespace JsonVerif

abbrev Entry := List Char × JValue

/-- pointwise: same key, related values -/
inductive PW : List Entry → List Entry → Prop
  | nil : PW [] []
  | cons {k : List Char} {x y : JValue} {a b : List Entry} : PermEq x y → PW a b → PW ((k, x) :: a) ((k, y) :: b)

theorem PW.length {a b : List Entry} (h : PW a b) : a.length = b.length := by
  induction h with
  | nil => rfl
  | cons _ _ ih => exact congrArg (· + 1) ih

theorem PermEqM.toPW {a b : List Entry} (h : PermEqM a b) : ∃ b', PW a b' ∧ b'.Perm b := by
  induction a generalizing b with
  | nil => cases h; exact ⟨[], .nil, .refl _⟩
  | cons _ _ ih =>
    cases h with
    | cons hxy hrest =>
      have ⟨b', hpw, hp⟩ := ih hrest
      exact ⟨_ :: b', .cons hxy hpw, (hp.cons _).trans List.perm_middle.symm⟩

theorem PermEqM.ofPW {a b' : List Entry} (h : PW a b') : ∀ {b : List Entry}, b'.Perm b → PermEqM a b := by
  induction h with
  | nil => intro b hp; cases hp.nil_eq; exact .nil
  | cons hxy _ ih =>
    intro b hp
    obtain ⟨b1, b2, rfl⟩ := List.append_of_mem (hp.subset List.mem_cons_self)
    exact .cons hxy (ih (hp.trans List.perm_middle).cons_inv)

/-- a permutation of the left list can be mirrored on the right -/
theorem PW.perm_left {l r : List Entry} (h : PW l r) {l2 : List Entry} (hp : l.Perm l2) :
    ∃ r2, r.Perm r2 ∧ PW l2 r2 := by
  induction hp generalizing r with
  | nil => cases h; exact ⟨[], .refl _, .nil⟩
  | cons x _ ih =>
    cases h with
    | cons hxy hrest =>
      obtain ⟨r2, hp2, hpw2⟩ := ih hrest
      exact ⟨_ :: r2, .cons _ hp2, .cons hxy hpw2⟩
  | swap x y l =>
    cases h with
    | cons h1 hrest =>
      cases hrest with
      | cons h2 hrest2 => exact ⟨_, .swap _ _ _, .cons h2 (.cons h1 hrest2)⟩
  | trans _ _ ih1 ih2 =>
    obtain ⟨r2, hp2, hpw2⟩ := ih1 h
    obtain ⟨r3, hp3, hpw3⟩ := ih2 hpw2
    exact ⟨r3, hp2.trans hp3, hpw3⟩

theorem PermEqM.length {a b : List Entry} (h : PermEqM a b) : a.length = b.length := by
  obtain ⟨b', hpw, hp⟩ := h.toPW
  rw [hpw.length, hp.length_eq]

/-! Symmetry and transitivity pass from the members of the left list to `PermEqL` and `PW`. -/

theorem PermEqL.symm_of {a b : List JValue} (h : PermEqL a b)
    (hs : ∀ x ∈ a, ∀ y, PermEq x y → PermEq y x) : PermEqL b a := by
  induction a generalizing b with
  | nil => cases h; exact .nil
  | cons _ _ ih =>
    have ⟨h1, h2⟩ := List.forall_mem_cons.mp hs
    cases h with
    | cons hxy hr => exact .cons (h1 _ hxy) (ih hr h2)

theorem PW.symm_of {a b : List Entry} (h : PW a b)
    (hs : ∀ e ∈ a, ∀ y, PermEq e.2 y → PermEq y e.2) : PW b a := by
  induction h with
  | nil => exact .nil
  | cons hxy _ ih =>
    have ⟨h1, h2⟩ := List.forall_mem_cons.mp hs
    exact .cons (h1 _ hxy) (ih h2)

theorem PermEqL.trans_of {a b c : List JValue} (h : PermEqL a b) (h' : PermEqL b c)
    (ht : ∀ x ∈ a, ∀ y z, PermEq x y → PermEq y z → PermEq x z) : PermEqL a c := by
  induction a generalizing b c with
  | nil => cases h; exact h'
  | cons _ _ ih =>
    have ⟨h1, h2⟩ := List.forall_mem_cons.mp ht
    cases h with
    | cons hxy hr => cases h' with
      | cons hyz hr' => exact .cons (h1 _ _ hxy hyz) (ih hr hr' h2)

theorem PW.trans_of {a b c : List Entry} (h : PW a b) (h' : PW b c)
    (ht : ∀ e ∈ a, ∀ y z, PermEq e.2 y → PermEq y z → PermEq e.2 z) : PW a c := by
  induction h generalizing c with
  | nil => exact h'
  | cons hxy _ ih =>
    have ⟨h1, h2⟩ := List.forall_mem_cons.mp ht
    cases h' with
    | cons hyz hr' => exact .cons (h1 _ _ hxy hyz) (ih hr' h2)

theorem PermEq.symm : ∀ (a b : JValue), PermEq a b → PermEq b a := by
  intro a
  induction a using JValue.ind <;> intro b h <;> cases h
  case null => exact .null
  case bool => exact .bool _
  case number => exact .number _
  case string => exact .string _
  case array ih _ hl => exact .array (hl.symm_of ih)
  case object ih _ hm =>
    obtain ⟨b', hpw, hp⟩ := hm.toPW
    obtain ⟨a2, hpa, hpw2⟩ := (hpw.symm_of ih).perm_left hp
    exact .object (PermEqM.ofPW hpw2 hpa.symm)

theorem PermEqL.symm : ∀ (a b : List JValue), PermEqL a b → PermEqL b a :=
  fun _ _ h => h.symm_of fun x _ => PermEq.symm x
theorem PW.symm : ∀ (a b : List Entry), PW a b → PW b a :=
  fun _ _ h => h.symm_of fun e _ => PermEq.symm e.2

theorem PW.perm_right {l r : List Entry} (h : PW l r) {r2 : List Entry} (hp : r.Perm r2) :
    ∃ l2, l.Perm l2 ∧ PW l2 r2 :=
  have ⟨l2, hp2, h2⟩ := (PW.symm l r h).perm_left hp
  ⟨l2, hp2, PW.symm r2 l2 h2⟩

theorem PermEq.trans : ∀ (a b c : JValue), PermEq a b → PermEq b c → PermEq a c := by
  intro a
  induction a using JValue.ind <;> intro b c h1 h2 <;> cases h1 <;> cases h2
  case null => exact .null
  case bool => exact .bool _
  case number => exact .number _
  case string => exact .string _
  case array ih _ hl1 _ hl2 => exact .array (hl1.trans_of hl2 ih)
  case object ih _ hm1 _ hm2 =>
    obtain ⟨b', hpw1, hp1⟩ := hm1.toPW
    obtain ⟨c', hpw2, hp2⟩ := hm2.toPW
    obtain ⟨c'', hpc, hpw3⟩ := hpw2.perm_left hp1.symm
    exact .object (PermEqM.ofPW (hpw1.trans_of hpw3 ih) (hpc.symm.trans hp2))

theorem PermEqL.trans : ∀ (a b c : List JValue), PermEqL a b → PermEqL b c → PermEqL a c :=
  fun _ _ _ h1 h2 => h1.trans_of h2 fun x _ => PermEq.trans x
theorem PW.trans : ∀ (a b c : List Entry), PW a b → PW b c → PW a c :=
  fun _ _ _ h1 h2 => h1.trans_of h2 fun e _ => PermEq.trans e.2

end JsonVerif
