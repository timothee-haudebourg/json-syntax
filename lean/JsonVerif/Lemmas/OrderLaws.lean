import JsonVerif.Model.Order
import JsonVerif.Lemmas.LexOrder
import JsonVerif.Lemmas.ValueInd
/-!
# The derived ordering is a total order consistent with equality (C14)

Every list comparison of the model satisfies `IsLex` and inherits its laws (Lemmas/LexOrder.lean).
`JValue.cmp` compares ranks, and within a rank the payloads; its laws follow by induction over the
first value, the other values being of the same constructor or settled by the ranks.
-/
namespace JsonVerif

-- `cmpNat a b` unfolds to `compare a b`
theorem cmpNat_refl (a : Nat) : cmpNat a a = .eq := Nat.compare_eq_eq.mpr rfl
theorem cmpNat_eq {a b : Nat} (h : cmpNat a b = .eq) : a = b := Nat.compare_eq_eq.mp h
theorem cmpNat_swap (a b : Nat) : cmpNat b a = (cmpNat a b).swap := (Nat.compare_swap a b).symm
theorem cmpNat_lt {a b : Nat} : cmpNat a b = .lt ↔ a < b := Nat.compare_eq_lt
theorem cmpNat_trans {a b c : Nat} (h1 : cmpNat a b = .lt) (h2 : cmpNat b c = .lt) :
    cmpNat a c = .lt :=
  cmpNat_lt.mpr (Nat.lt_trans (cmpNat_lt.mp h1) (cmpNat_lt.mp h2))

theorem cmpBool_refl (a : Bool) : cmpBool a a = .eq := by cases a <;> rfl
theorem cmpBool_eq : ∀ {a b : Bool}, cmpBool a b = .eq → a = b := by decide
theorem cmpBool_swap (a b : Bool) : cmpBool b a = (cmpBool a b).swap := by
  cases a <;> cases b <;> rfl
theorem cmpBool_lt {a b : Bool} : cmpBool a b = .lt ↔ a = false ∧ b = true := by
  cases a <;> cases b <;> decide
theorem cmpBool_trans {a b c : Bool} (h1 : cmpBool a b = .lt) (h2 : cmpBool b c = .lt) :
    cmpBool a c = .lt := by
  rw [cmpBool_lt] at *; exact ⟨h1.1, h2.2⟩

theorem cmpChars_isLex : IsLex (fun x y => cmpNat x.toNat y.toNat) cmpChars :=
  ⟨rfl, fun _ _ => rfl, fun _ _ => rfl, fun _ _ _ _ => rfl⟩

theorem cmpChars_refl (a) : cmpChars a a = .eq := cmpChars_isLex.refl fun _ _ => cmpNat_refl _
theorem cmpChars_eq {a b} : cmpChars a b = .eq → a = b :=
  cmpChars_isLex.eq fun _ _ _ e => Char.toNat_inj.mp (cmpNat_eq e)
theorem cmpChars_swap (a b) : cmpChars b a = (cmpChars a b).swap :=
  cmpChars_isLex.swap _ fun _ _ _ => cmpNat_swap _ _
theorem cmpChars_trans {a b c} : cmpChars a b = .lt → cmpChars b c = .lt → cmpChars a c = .lt :=
  cmpChars_isLex.trans (fun _ _ e => Char.toNat_inj.mp (cmpNat_eq e)) fun _ _ _ _ => cmpNat_trans

def Ordering.thenLex (a b : Ordering) : Ordering := match a with | .eq => b | o => o

theorem cmpL_isLex : IsLex JValue.cmp cmpL := ⟨rfl, fun _ _ => rfl, fun _ _ => rfl, fun _ _ _ _ => rfl⟩

theorem cmpM_isLex : IsLex (pairCmp cmpChars JValue.cmp) cmpM :=
  ⟨rfl, fun _ _ => rfl, fun _ _ => rfl, fun (k, _) _ (l, _) _ => by
    rw [cmpM, pairCmp]; cases cmpChars k l <;> rfl⟩

theorem cmp_rank {a b : JValue} (h : a.rank ≠ b.rank) : JValue.cmp a b = cmpNat a.rank b.rank := by
  unfold JValue.cmp
  -- the six same-constructor arms contradict `h`; the catch-all arm is the claim
  split <;> first | rfl | cases h rfl

inductive SameCtor : JValue → JValue → Prop
  | null : SameCtor .null .null
  | bool a b : SameCtor (.bool a) (.bool b)
  | number a b : SameCtor (.number a) (.number b)
  | string a b : SameCtor (.string a) (.string b)
  | array a b : SameCtor (.array a) (.array b)
  | object a b : SameCtor (.object a) (.object b)

theorem sameCtor_of_rank {a b : JValue} (h : a.rank = b.rank) : SameCtor a b := by
  cases a <;> cases b <;> first | constructor | cases h

theorem cmp_refl : ∀ a : JValue, JValue.cmp a a = .eq :=
  JValue.ind rfl cmpBool_refl cmpChars_refl cmpChars_refl (fun _ ih => cmpL_isLex.refl ih)
    fun _ ih => cmpM_isLex.refl fun e he => pairCmp_refl (cmpChars_refl _) (ih e he)

theorem cmpL_refl : ∀ xs : List JValue, cmpL xs xs = .eq :=
  fun _ => cmpL_isLex.refl fun x _ => cmp_refl x
theorem cmpM_refl : ∀ es : List (List Char × JValue), cmpM es es = .eq :=
  fun _ => cmpM_isLex.refl fun e _ => pairCmp_refl (cmpChars_refl _) (cmp_refl e.2)

theorem rank_ne_eq {a b : JValue} (h : a.rank ≠ b.rank) : cmpNat a.rank b.rank ≠ .eq :=
  fun e => h (cmpNat_eq e)

theorem rank_of_cmp_eq {a b : JValue} (h : JValue.cmp a b = .eq) : a.rank = b.rank :=
  Decidable.byContradiction fun hr => rank_ne_eq hr (cmp_rank hr ▸ h)

theorem cmp_eq : ∀ {a b : JValue}, JValue.cmp a b = .eq → a = b := by
  intro a
  induction a using JValue.ind <;> intro b h <;> cases sameCtor_of_rank (rank_of_cmp_eq h)
  case null => rfl
  case bool => rw [cmpBool_eq h]
  case number => rw [cmpChars_eq h]
  case string => rw [cmpChars_eq h]
  case array ih _ => rw [cmpL_isLex.eq (fun x hx _ => ih x hx) h]
  case object ih _ => rw [cmpM_isLex.eq (fun e he _ => pairCmp_eq cmpChars_eq (ih e he)) h]

theorem cmpL_eq : ∀ {xs ys : List JValue}, cmpL xs ys = .eq → xs = ys :=
  cmpL_isLex.eq fun _ _ _ => cmp_eq
-- `entryCmp` unfolds to `pairCmp cmpChars JValue.cmp` (its `match … | .eq => …` is `Ordering.then`)
theorem entryCmp_eq {a b : List Char × JValue} : entryCmp a b = .eq → a = b :=
  pairCmp_eq cmpChars_eq cmp_eq
theorem cmpM_eq : ∀ {xs ys : List (List Char × JValue)}, cmpM xs ys = .eq → xs = ys :=
  cmpM_isLex.eq fun _ _ _ => entryCmp_eq

theorem cmp_swap_of_same {a b : JValue}
    (h : a.rank = b.rank → JValue.cmp b a = (JValue.cmp a b).swap) :
    JValue.cmp b a = (JValue.cmp a b).swap := by
  by_cases hr : a.rank = b.rank
  · exact h hr
  · rw [cmp_rank hr, cmp_rank (Ne.symm hr)]; exact cmpNat_swap _ _

theorem cmp_swap : ∀ a b : JValue, JValue.cmp b a = (JValue.cmp a b).swap := by
  intro a b
  induction a using JValue.ind generalizing b
  all_goals
    refine cmp_swap_of_same fun hr => ?_
    cases sameCtor_of_rank hr
  case null => rfl
  case bool => exact cmpBool_swap _ _
  case number => exact cmpChars_swap _ _
  case string => exact cmpChars_swap _ _
  case array ih _ => exact cmpL_isLex.swap _ ih
  case object ih _ =>
    exact cmpM_isLex.swap _ fun e he f => pairCmp_swap (cmpChars_swap _ _) (ih e he f.2)

theorem cmpL_swap : ∀ xs ys : List JValue, cmpL ys xs = (cmpL xs ys).swap :=
  fun _ _ => cmpL_isLex.swap _ fun x _ => cmp_swap x
theorem entryCmp_swap (a b : List Char × JValue) : entryCmp b a = (entryCmp a b).swap :=
  pairCmp_swap (cmpChars_swap _ _) (cmp_swap _ _)
theorem cmpM_swap : ∀ xs ys : List (List Char × JValue), cmpM ys xs = (cmpM xs ys).swap :=
  fun _ _ => cmpM_isLex.swap _ fun e _ => entryCmp_swap e

theorem cmp_lt_rank {a b : JValue} (h : JValue.cmp a b = .lt) : a.rank ≤ b.rank := by
  by_cases hr : a.rank = b.rank
  · omega
  · rw [cmp_rank hr, cmpNat_lt] at h; omega

theorem cmp_trans_of_same {a b c : JValue} (h1 : JValue.cmp a b = .lt) (h2 : JValue.cmp b c = .lt)
    (h : a.rank = b.rank → a.rank = c.rank → JValue.cmp a c = .lt) : JValue.cmp a c = .lt := by
  have r1 := cmp_lt_rank h1
  have r2 := cmp_lt_rank h2
  by_cases hac : a.rank = c.rank
  · exact h (by omega) hac
  · rw [cmp_rank hac, cmpNat_lt]; omega

theorem cmp_trans : ∀ {a b c : JValue}, JValue.cmp a b = .lt → JValue.cmp b c = .lt →
    JValue.cmp a c = .lt := by
  intro a b c h1 h2
  induction a using JValue.ind generalizing b c
  all_goals
    refine cmp_trans_of_same h1 h2 fun hab hac => ?_
    cases sameCtor_of_rank hab
    cases sameCtor_of_rank hac
  case null => cases h1
  case bool => exact cmpBool_trans h1 h2
  case number => exact cmpChars_trans h1 h2
  case string => exact cmpChars_trans h1 h2
  case array ih _ _ => exact cmpL_isLex.trans (fun _ _ => cmp_eq) (fun x hx _ _ => ih x hx) h1 h2
  case object ih _ _ =>
    exact cmpM_isLex.trans (fun _ _ => entryCmp_eq)
      (fun e he _ _ => pairCmp_trans (fun _ _ => cmpChars_eq) cmpChars_trans (ih e he)) h1 h2

theorem cmpL_trans : ∀ {a b c : List JValue}, cmpL a b = .lt → cmpL b c = .lt → cmpL a c = .lt :=
  cmpL_isLex.trans (fun _ _ => cmp_eq) fun _ _ _ _ => cmp_trans
theorem entryCmp_trans {a b c : List Char × JValue} : entryCmp a b = .lt → entryCmp b c = .lt →
    entryCmp a c = .lt :=
  pairCmp_trans (fun _ _ => cmpChars_eq) cmpChars_trans cmp_trans
theorem cmpM_trans : ∀ {a b c : List (List Char × JValue)},
    cmpM a b = .lt → cmpM b c = .lt → cmpM a c = .lt :=
  cmpM_isLex.trans (fun _ _ => entryCmp_eq) fun _ _ _ _ => entryCmp_trans

end JsonVerif
