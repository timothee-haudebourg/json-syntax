import JsonVerif.Lemmas.PermEqLaws
import JsonVerif.Lemmas.DeLoops
/-!
# Typed deserialization is blind to the order of object members

serde_json renders structs through a sorted map, so "deserializing serde_json's rendering of the
datum" reads the members in another order. For every descriptor without map types, a successful
deserialization gives the same datum on any value that is equal up to permutation of object members
at every depth (`PermEq`, the specification relation of C15).
-/
namespace JsonVerif

variable {look : List Char → JValue → Option (Nat × Except DeErr SData)} {s z : List (Option SData)}

theorem fillSlots_swap (e1 e2 : Entry) (r : List Entry)
    (h : fillSlots look (e1 :: e2 :: r) s = .ok z) : fillSlots look (e2 :: e1 :: r) s = .ok z := by
  obtain ⟨k1, x1⟩ := e1
  obtain ⟨k2, x2⟩ := e2
  cases h1 : look k1 x1 with
  | none =>
    rw [fillSlots_cons_none h1] at h
    cases h2 : look k2 x2 with
    | none => rwa [fillSlots_cons_none h2, fillSlots_cons_none h1, ← fillSlots_cons_none h2]
    | some p =>
      rw [fillSlots_cons_some h2] at h ⊢
      simpa only [fillSlots_cons_none h1] using h
  | some p1 =>
    obtain ⟨i1, r1⟩ := p1
    rw [fillSlots_cons_some h1] at h
    obtain ⟨f1, d1, rfl, h⟩ := h
    cases h2 : look k2 x2 with
    | none =>
      rw [fillSlots_cons_none h2] at h ⊢
      exact (fillSlots_cons_some h1).2 ⟨f1, d1, rfl, h⟩
    | some p2 =>
      obtain ⟨i2, r2⟩ := p2
      rw [fillSlots_cons_some h2] at h
      obtain ⟨f2, d2, rfl, h⟩ := h
      rw [fillSlots_cons_some h2]
      simp only [fillSlots_cons_some h1]
      simp only [List.getElem?_set] at f2 ⊢
      by_cases hi : i1 = i2
      · -- both rounds passed at one slot: it is out of range, and `set` does nothing there
        subst hi
        have hl : s.length ≤ i1 := Nat.le_of_not_lt fun hlt => f2 d1 (by simp [hlt])
        simp only [List.set_eq_of_length_le hl] at h ⊢
        exact ⟨f1, d2, rfl, by simp [Nat.not_lt.2 hl], d1, rfl, h⟩
      · simp only [hi, ↓reduceIte] at f2
        refine ⟨f2, d2, rfl, by simpa [Ne.symm hi] using f1, d1, rfl, ?_⟩
        rwa [List.set_comm _ _ (Ne.symm hi)]

theorem fillSlots_perm (look : List Char → JValue → Option (Nat × Except DeErr SData))
    {a b : List Entry} (hp : a.Perm b) :
    ∀ (s z : List (Option SData)), fillSlots look a s = .ok z → fillSlots look b s = .ok z := by
  induction hp with
  | nil => exact fun _ _ h => h
  | @cons e _ _ _ ih =>
    intro s z h
    obtain ⟨k, x⟩ := e
    cases hl : look k x with
    | none => rw [fillSlots_cons_none hl] at h ⊢; exact ih s z h
    | some p =>
      rw [fillSlots_cons_some hl] at h ⊢
      obtain ⟨f, d, hd, h⟩ := h
      exact ⟨f, d, hd, ih _ z h⟩
  | swap e1 e2 l => exact fun s z h => fillSlots_swap e2 e1 l h
  | trans _ _ ih1 ih2 => exact fun s z h => ih2 s z (ih1 s z h)

/-- a field lookup that cannot tell `PermEq` values apart: the slot depends on the key only, and a
    successful value result carries over (`de_permField` states it of `deField`, unfolded) -/
def LookBlind (look : List Char → JValue → Option (Nat × Except DeErr SData)) : Prop :=
  ∀ k x y, PermEq x y →
    (look k x = none → look k y = none) ∧
    (∀ j r, look k x = some (j, r) → ∃ r', look k y = some (j, r') ∧ ∀ d, r = .ok d → r' = .ok d)

theorem fillSlots_pw (look : List Char → JValue → Option (Nat × Except DeErr SData))
    (H : LookBlind look) {a b : List Entry} (hp : PW a b) :
    ∀ (s z : List (Option SData)), fillSlots look a s = .ok z → fillSlots look b s = .ok z := by
  induction hp with
  | nil => exact fun _ _ h => h
  | @cons k x y a0 b0 hxy _ ih =>
    intro s z h
    obtain ⟨H1, H2⟩ := H k x y hxy
    cases hl : look k x with
    | none => rw [fillSlots_cons_none hl] at h; rw [fillSlots_cons_none (H1 hl)]; exact ih s z h
    | some p =>
      obtain ⟨r', hl', hr'⟩ := H2 _ _ hl
      rw [fillSlots_cons_some hl] at h
      obtain ⟨f, d, hd, h⟩ := h
      exact (fillSlots_cons_some hl').2 ⟨f, d, hr' d hd, ih _ z h⟩

theorem fillSlots_permEq (look : List Char → JValue → Option (Nat × Except DeErr SData))
    (H : LookBlind look) {a b : List Entry} (hp : PermEqM a b) (s z : List (Option SData))
    (h : fillSlots look a s = .ok z) : fillSlots look b s = .ok z := by
  obtain ⟨c, hpw, hperm⟩ := hp.toPW
  exact fillSlots_perm look hperm s z (fillSlots_pw look H hpw s z h)

theorem structVisit_permEq {env : FEnv} {fs : List (List Char × DTy)} (H : LookBlind (deField env fs 0))
    {a b : List Entry} (hp : PermEqM a b) {mk : List (List Char × SData) → SData} {d : SData}
    (h : structVisit env fs a mk = .ok d) : structVisit env fs b mk = .ok d :=
  Except.bind_ok_of (fillSlots_permEq _ H hp _) h

mutual
/-- descriptors without map types (a map datum is a list in the model, a Rust map is not) -/
def NoMap : DTy → Prop
  | .opt t => NoMap t
  | .newtype t => NoMap t
  | .seq t => NoMap t
  | .tuple ts => NoMapL ts
  | .map _ _ => False
  | .struct fs => NoMapF fs
  | .enum vs => NoMapF vs
  | _ => True
def NoMapL : List DTy → Prop
  | [] => True
  | t :: ts => NoMap t ∧ NoMapL ts
def NoMapF : List (List Char × DTy) → Prop
  | [] => True
  | (_, t) :: fs => NoMap t ∧ NoMapF fs
end

theorem PermEq.null_iff {v w : JValue} (h : PermEq v w) : v = .null ↔ w = .null := by
  cases h <;> simp

theorem PermEqM.single {k : List Char} {x : JValue} {b : List Entry} (h : PermEqM [(k, x)] b) :
    ∃ y, b = [(k, y)] ∧ PermEq x y := by
  obtain ⟨c, hpw, hperm⟩ := h.toPW
  cases hpw with
  | cons hxy hr =>
    cases hr
    exact ⟨_, List.perm_singleton.mp hperm.symm, hxy⟩

theorem PermEqM.length_eq {a b : List Entry} (h : PermEqM a b) : a.length = b.length := h.length

/-- a function that accepts no array and no object cannot tell `PermEq` values apart -/
theorem PermEq.leaf {α : Type} {f : JValue → Except DeErr α} {v w : JValue} {d : α} (hp : PermEq v w)
    (ha : ∀ a, f (.array a) = .error .invalidType) (ho : ∀ o, f (.object o) = .error .invalidType)
    (h : f v = .ok d) : f w = .ok d := by
  cases hp with
  | array => rw [ha] at h; cases h
  | object => rw [ho] at h; cases h
  | _ => exact h

/-- a visitor that stops short of the end of the array fails: only the data matter, and two
    remainders of equal length are both empty or both not -/
theorem seqDone_perm {α : Type} {r r' : Except DeErr (α × List JValue)} {mk : α → SData} {d : SData}
    (H : ∀ a rest, r = .ok (a, rest) → ∃ rest', r' = .ok (a, rest') ∧ PermEqL rest rest')
    (h : seqDone r mk = .ok d) : seqDone r' mk = .ok d := by
  obtain ⟨a, hr, rfl⟩ := seqDone_ok.1 h
  obtain ⟨rest', hr', hl⟩ := H a [] hr
  cases hl
  exact seqDone_ok.2 ⟨a, hr', rfl⟩

theorem mapE_permEqL {f : JValue → Except DeErr SData} :
    ∀ {a b : List JValue}, PermEqL a b → (∀ x ∈ a, ∀ y d, PermEq x y → f x = .ok d → f y = .ok d) →
    ∀ ds, mapE f a = .ok ds → mapE f b = .ok ds := by
  intro a b hl H ds h
  cases hl with
  | nil => exact h
  | @cons x y xs ys hxy hr =>
    obtain ⟨d, ds', hd, hm, rfl⟩ := mapE_cons_ok.1 h
    exact mapE_cons_ok.2 ⟨d, ds', H x List.mem_cons_self y d hxy hd,
      mapE_permEqL hr (fun x hx => H x (List.mem_cons_of_mem _ hx)) ds' hm, rfl⟩

mutual
theorem de_perm (env : FEnv) : ∀ (t : DTy), NoMap t → ∀ (v w : JValue) (d : SData), PermEq v w →
    de env t v = .ok d → de env t w = .ok d := by
  intro t hn v w d hp h
  cases t with
  | bool | int _ | f32 | f64 | char | str | unit | unitStruct =>
    exact hp.leaf (fun _ => rfl) (fun _ => rfl) h
  | map _ _ => cases hn
  | opt t =>
    by_cases hv : v = .null
    · cases hv; cases hp; exact h
    · rw [de_opt env t hv] at h
      rw [de_opt env t fun e => hv (hp.null_iff.2 e)]
      exact Except.map_ok_of (fun x => de_perm env t hn v w x hp) h
  | newtype t =>
    rw [de_newtype] at h ⊢
    exact Except.map_ok_of (fun x => de_perm env t hn v w x hp) h
  | seq t =>
    cases hp with
    | @array a b hl =>
      rw [de_seq_array] at h ⊢
      exact Except.map_ok_of (mapE_permEqL hl fun x _ y d => de_perm env t hn x y d) h
    | _ => cases h
  | tuple ts =>
    cases hp with
    | @array a b hl => exact seqDone_perm (fun ds rest => de_permL env ts hn a b ds rest hl) h
    | _ => cases h
  | struct fs =>
    cases hp with
    | @array a b hl => exact seqDone_perm (fun ds rest => de_permFS env fs hn a b ds rest hl) h
    | @object a b hm =>
      rw [de_struct_object] at h ⊢
      exact structVisit_permEq (de_permField env fs hn 0) hm h
    | _ => cases h
  | enum vs =>
    cases hp with
    | string s => exact h
    | @object a b hm =>
      match a, hm, h with
      | [(k, x)], hm, h =>
        obtain ⟨y, rfl, hxy⟩ := hm.single
        exact de_permV env vs hn k x y d hxy h
      | [], _, h | _ :: _ :: _, _, h => cases h
    | _ => cases h
theorem de_permL (env : FEnv) : ∀ (ts : List DTy), NoMapL ts → ∀ (a b : List JValue) (ds : List SData)
    (rest : List JValue), PermEqL a b → deTuple env ts a = .ok (ds, rest) →
    ∃ rest', deTuple env ts b = .ok (ds, rest') ∧ PermEqL rest rest' := by
  intro ts hn a b ds rest hl h
  cases ts with
  | nil => cases h; exact ⟨b, rfl, hl⟩
  | cons t ts =>
    cases hl with
    | nil => cases h
    | @cons x y xs ys hxy hr =>
      obtain ⟨dx, ds', hd, hm, rfl⟩ := deTuple_cons_ok.1 h
      obtain ⟨rest', h1, h2⟩ := de_permL env ts hn.2 xs ys ds' rest hr hm
      exact ⟨rest', deTuple_cons_ok.2 ⟨dx, ds', de_perm env t hn.1 x y dx hxy hd, h1, rfl⟩, h2⟩
theorem de_permFS (env : FEnv) : ∀ (fs : List (List Char × DTy)), NoMapF fs → ∀ (a b : List JValue)
    (ds : List (List Char × SData)) (rest : List JValue), PermEqL a b →
    deFieldsSeq env fs a = .ok (ds, rest) →
    ∃ rest', deFieldsSeq env fs b = .ok (ds, rest') ∧ PermEqL rest rest' := by
  intro fs hn a b ds rest hl h
  cases fs with
  | nil => cases h; exact ⟨b, rfl, hl⟩
  | cons f fs =>
    obtain ⟨n, t⟩ := f
    cases hl with
    | nil => cases h
    | @cons x y xs ys hxy hr =>
      obtain ⟨dx, ds', hd, hm, rfl⟩ := deFieldsSeq_cons_ok.1 h
      obtain ⟨rest', h1, h2⟩ := de_permFS env fs hn.2 xs ys ds' rest hr hm
      exact ⟨rest', deFieldsSeq_cons_ok.2 ⟨dx, ds', de_perm env t hn.1 x y dx hxy hd, h1, rfl⟩, h2⟩
theorem de_permField (env : FEnv) : ∀ (fs : List (List Char × DTy)), NoMapF fs → ∀ (i : Nat)
    (k : List Char) (x y : JValue), PermEq x y →
    (deField env fs i k x = none → deField env fs i k y = none) ∧
    (∀ j r, deField env fs i k x = some (j, r) →
      ∃ r', deField env fs i k y = some (j, r') ∧ ∀ d, r = .ok d → r' = .ok d) := by
  intro fs hn i k x y hxy
  cases fs with
  | nil => exact ⟨fun _ => rfl, nofun⟩
  | cons f fs =>
    obtain ⟨n, t⟩ := f
    rw [deField_cons, deField_cons]
    split
    · refine ⟨nofun, ?_⟩
      rintro j r ⟨⟩
      exact ⟨_, rfl, fun d hd => de_perm env t hn.1 x y d hxy hd⟩
    · exact de_permField env fs hn.2 (i + 1) k x y hxy
theorem de_permV (env : FEnv) : ∀ (vs : List (List Char × DTy)), NoMapF vs → ∀ (k : List Char)
    (x y : JValue) (d : SData), PermEq x y →
    deVariant env vs k (some x) = .ok d → deVariant env vs k (some y) = .ok d := by
  intro vs hn k x y d hxy h
  cases vs with
  | nil => cases h
  | cons np vs =>
    obtain ⟨n, p⟩ := np
    cases hk : n == k with
    | false =>
      rw [deVariant_skip env n p vs k _ hk] at h ⊢
      exact de_permV env vs hn.2 k x y d hxy h
    | true =>
      cases p with
      | unit =>
        cases hxy with
        | null => exact h
        | _ => simp only [deVariant, hk, ↓reduceIte, reduceCtorEq] at h
      | newtype t =>
        rw [deVariant_newtype_hit env hk] at h ⊢
        exact Except.map_ok_of (fun dx => de_perm env t hn.1 x y dx hxy) h
      | tuple ts =>
        cases hxy with
        | @array a b hl =>
          cases hl with
          | nil => simp only [deVariant, hk, ↓reduceIte, reduceCtorEq] at h
          | cons hx0 hr =>
            simp only [deVariant, hk, ↓reduceIte] at h ⊢
            exact seqDone_perm (fun ds rest => de_permL env ts hn.1 _ _ ds rest (.cons hx0 hr)) h
        | _ => simp only [deVariant, hk, ↓reduceIte, reduceCtorEq] at h
      | struct fs =>
        cases hxy with
        | @object a b hm =>
          rw [deVariant_struct_hit env hk] at h ⊢
          exact structVisit_permEq (de_permField env fs hn.1 0) hm h
        | _ => simp only [deVariant, hk, ↓reduceIte, reduceCtorEq] at h
      | _ => simp only [deVariant, hk, ↓reduceIte, reduceCtorEq] at h
end

end JsonVerif
