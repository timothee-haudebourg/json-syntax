import JsonVerif.Spec.Grammar
import JsonVerif.Lemmas.NumRun
/-!
# The number automaton of number.rs recognises exactly the RFC 8259 `number` production

`Suffix st w`: the grammar's view of "what may still follow" in automaton state `st`. Three facts
— `suffix_step_sound`, `suffix_step_complete`, `suffix_nil` — make the automaton and the ABNF agree
state by state; `numLoop_sound` / `numLoop_complete` lift them to the loop. At the end `FollowOK`, the
condition under which the scanner stops behind a number, and the first character of a number
(`gnumber_head`; no lemma lists the characters a `GNumber` is made of).
-/
namespace JsonVerif

theorem d19_digit {c : Char} (h : isDigit19 c = true) : isDigit c = true := by
  simp only [isDigit19, isDigit, Bool.and_eq_true, decide_eq_true_eq] at *
  refine ⟨?_, h.2⟩
  have : '0' ≤ '1' := by decide
  exact Char.le_trans this h.1

theorem d19_ne0 {c : Char} (h : isDigit19 c = true) : c ≠ '0' := by
  intro e; subst e; revert h; decide

theorem digit_cases {c : Char} (h : isDigit c = true) : c = '0' ∨ isDigit19 c = true := by
  simp only [isDigit19, isDigit, Bool.and_eq_true, decide_eq_true_eq] at *
  by_cases e : c = '0'
  · exact .inl e
  · refine .inr ⟨?_, h.2⟩
    have h1 : ('0' : Char).toNat ≤ c.toNat := UInt32.le_iff_toNat_le.1 h.1
    have ne : c.toNat ≠ ('0' : Char).toNat := fun x => e (Char.ext (UInt32.toNat_inj.1 x))
    exact UInt32.le_iff_toNat_le.2 (Nat.lt_of_le_of_ne h1 ne.symm)

theorem digit_ne {c : Char} (h : isDigit c = true) : c ≠ '-' ∧ c ≠ '+' ∧ isE c = false := by
  refine ⟨?_, ?_, ?_⟩
  · intro e; subst e; revert h; decide
  · intro e; subst e; revert h; decide
  · cases he : isE c with
    | false => rfl
    | true =>
      simp only [isE, Bool.or_eq_true, decide_eq_true_eq] at he
      rcases he with e | e <;> (subst e; revert h; decide)

theorem isE_not_digit {c : Char} (he : isE c = true) : isDigit c = false := by
  cases hd : isDigit c with
  | false => rfl
  | true => rw [(digit_ne hd).2.2] at he; cases he

theorem isE_ne {c : Char} (h : isE c = true) : c ≠ '.' := by
  simp only [isE, Bool.or_eq_true, decide_eq_true_eq] at h
  rcases h with e | e <;> (subst e; decide)

theorem AllDigits.nil : AllDigits [] := by intro c h; cases h
theorem AllDigits.cons {c : Char} {ds : List Char} (h : isDigit c = true) (hs : AllDigits ds) :
    AllDigits (c :: ds) :=
  List.forall_mem_cons.2 ⟨h, hs⟩
theorem AllDigits.head {c : Char} {ds : List Char} (h : AllDigits (c :: ds)) : isDigit c = true :=
  h c (List.mem_cons_self)
theorem AllDigits.tail {c : Char} {ds : List Char} (h : AllDigits (c :: ds)) : AllDigits ds :=
  fun x hx => h x (List.mem_cons_of_mem _ hx)

/-- what the grammar still allows after the automaton has reached `st`. After the exponent letter
    (`expSign`) that is "whatever makes an exponent behind an exponent letter": the letter is
    re-attached as a fixed `'e'`, which is as good as `'E'` (`GExp.letter`). -/
def Suffix : NumState → List Char → Prop
  | .init, w => GNumber w
  | .firstDigit, w => ∃ i f x, w = i ++ f ++ x ∧ GInt i ∧ GFrac f ∧ GExp x
  | .zero, w => ∃ f x, w = f ++ x ∧ GFrac f ∧ GExp x
  | .nonZero, w => ∃ ds f x, w = ds ++ f ++ x ∧ AllDigits ds ∧ GFrac f ∧ GExp x
  | .fracFirst, w => ∃ c ds x, w = c :: ds ++ x ∧ isDigit c = true ∧ AllDigits ds ∧ GExp x
  | .fracRest, w => ∃ ds x, w = ds ++ x ∧ AllDigits ds ∧ GExp x
  | .expSign, w => GExp ('e' :: w)
  | .expFirst, w => ∃ c ds, w = c :: ds ∧ isDigit c = true ∧ AllDigits ds
  | .expRest, w => AllDigits w

/-- the grammar does not care which of `e`, `E` starts an exponent -/
theorem GExp.letter {e e' : Char} {w : List Char} (h : GExp (e :: w)) (he' : isE e' = true) :
    GExp (e' :: w) := by
  cases h with
  | plain _ c ds _ hc hd => exact .plain e' c ds he' hc hd
  | signed _ sg c ds _ hs hc hd => exact .signed e' sg c ds he' hs hc hd

theorem gnumber_zero : GNumber ['0'] := .pos ['0'] [] [] .zero .none .none

theorem suffix_nil (st : NumState) : Suffix st [] ↔ st.accepting = true := by
  cases st <;> simp only [Suffix, NumState.accepting]
  case init =>
    refine ⟨fun h => ?_, fun h => nomatch h⟩
    generalize hw : ([] : List Char) = w at h
    cases h with
    | pos i f e hi => cases hi <;> cases hw
    | neg i f e hi => cases hw
  case firstDigit =>
    refine ⟨fun ⟨i, f, x, h, hi, _, _⟩ => ?_, fun h => nomatch h⟩
    cases hi <;> cases h
  case zero => exact ⟨fun _ => trivial, fun _ => ⟨[], [], rfl, .none, .none⟩⟩
  case nonZero => exact ⟨fun _ => trivial, fun _ => ⟨[], [], [], rfl, AllDigits.nil, .none, .none⟩⟩
  case fracFirst => exact ⟨fun ⟨c, ds, x, h, _⟩ => (nomatch h), fun h => nomatch h⟩
  case fracRest => exact ⟨fun _ => trivial, fun _ => ⟨[], [], rfl, AllDigits.nil, .none⟩⟩
  case expSign => exact ⟨fun h => (nomatch h), fun h => nomatch h⟩
  case expFirst => exact ⟨fun ⟨c, ds, h, _⟩ => (nomatch h), fun h => nomatch h⟩
  case expRest => exact ⟨fun _ => trivial, fun _ => AllDigits.nil⟩

/-- neither branch of `orFollow` is a transition -/
theorem orFollow_ne_to {p : Prop} [Decidable p] {st : NumState} : (if p then NumTr.stop else .bad) ≠ .to st := by
  split <;> nofun

/-- one guard of a chain of `numTrans` read backwards (`split` on the chains is many times dearer) -/
theorem NumTr.of_ite {p : Prop} [Decidable p] {a st' : NumState} {x : NumTr}
    (h : (if p then .to a else x) = NumTr.to st') : p ∧ a = st' ∨ ¬ p ∧ x = .to st' := by
  by_cases hp : p
  · rw [if_pos hp] at h; cases h; exact .inl ⟨hp, rfl⟩
  · rw [if_neg hp] at h; exact .inr ⟨hp, h⟩

theorem suffix_step_sound {ctx : Ctx} {st st' : NumState} {c : Char} {w : List Char}
    (ht : numTrans ctx st c = .to st') (hw : Suffix st' w) : Suffix st (c :: w) := by
  cases st <;> simp only [numTrans] at ht
  case init =>
    rcases NumTr.of_ite ht with ⟨rfl, rfl⟩ | ⟨_, ht⟩
    · obtain ⟨i, f, x, rfl, hi, hf, hx⟩ := hw
      exact .neg i f x hi hf hx
    rcases NumTr.of_ite ht with ⟨rfl, rfl⟩ | ⟨_, ht⟩
    · obtain ⟨f, x, rfl, hf, hx⟩ := hw
      exact .pos ['0'] f x .zero hf hx
    rcases NumTr.of_ite ht with ⟨hc, rfl⟩ | ⟨_, ht⟩
    · obtain ⟨ds, f, x, rfl, hd, hf, hx⟩ := hw
      exact List.cons_append .. ▸ List.cons_append .. ▸ GNumber.pos (c :: ds) f x (.nz c ds hc hd) hf hx
    cases ht
  case firstDigit =>
    rcases NumTr.of_ite ht with ⟨rfl, rfl⟩ | ⟨_, ht⟩
    · obtain ⟨f, x, rfl, hf, hx⟩ := hw
      exact ⟨['0'], f, x, rfl, .zero, hf, hx⟩
    rcases NumTr.of_ite ht with ⟨hc, rfl⟩ | ⟨_, ht⟩
    · obtain ⟨ds, f, x, rfl, hd, hf, hx⟩ := hw
      exact ⟨c :: ds, f, x, by simp, .nz c ds hc hd, hf, hx⟩
    cases ht
  case zero =>
    rcases NumTr.of_ite ht with ⟨rfl, rfl⟩ | ⟨_, ht⟩
    · obtain ⟨c', ds, x, rfl, hc', hd, hx⟩ := hw
      exact ⟨'.' :: c' :: ds, x, by simp, .some c' ds hc' hd, hx⟩
    rcases NumTr.of_ite ht with ⟨hc, rfl⟩ | ⟨_, ht⟩
    · exact ⟨[], c :: w, rfl, .none, hw.letter hc⟩
    exact absurd ht orFollow_ne_to
  case nonZero =>
    rcases NumTr.of_ite ht with ⟨hc, rfl⟩ | ⟨_, ht⟩
    · obtain ⟨ds, f, x, rfl, hd, hf, hx⟩ := hw
      exact ⟨c :: ds, f, x, by simp, AllDigits.cons hc hd, hf, hx⟩
    rcases NumTr.of_ite ht with ⟨rfl, rfl⟩ | ⟨_, ht⟩
    · obtain ⟨c', ds, x, rfl, hc', hd, hx⟩ := hw
      exact ⟨[], '.' :: c' :: ds, x, by simp, AllDigits.nil, .some c' ds hc' hd, hx⟩
    rcases NumTr.of_ite ht with ⟨hc, rfl⟩ | ⟨_, ht⟩
    · exact ⟨[], [], c :: w, rfl, AllDigits.nil, .none, hw.letter hc⟩
    exact absurd ht orFollow_ne_to
  case fracFirst =>
    rcases NumTr.of_ite ht with ⟨hc, rfl⟩ | ⟨_, ht⟩
    · obtain ⟨ds, x, rfl, hd, hx⟩ := hw
      exact ⟨c, ds, x, rfl, hc, hd, hx⟩
    cases ht
  case fracRest =>
    rcases NumTr.of_ite ht with ⟨hc, rfl⟩ | ⟨_, ht⟩
    · obtain ⟨ds, x, rfl, hd, hx⟩ := hw
      exact ⟨c :: ds, x, rfl, AllDigits.cons hc hd, hx⟩
    rcases NumTr.of_ite ht with ⟨hc, rfl⟩ | ⟨_, ht⟩
    · exact ⟨[], c :: w, rfl, AllDigits.nil, hw.letter hc⟩
    exact absurd ht orFollow_ne_to
  case expSign =>
    rcases NumTr.of_ite ht with ⟨hc, rfl⟩ | ⟨_, ht⟩
    · obtain ⟨c', ds, rfl, hc', hd⟩ := hw
      simp only [Bool.or_eq_true, decide_eq_true_eq] at hc
      exact .signed 'e' c c' ds (by decide) hc hc' hd
    rcases NumTr.of_ite ht with ⟨hc, rfl⟩ | ⟨_, ht⟩
    · exact .plain 'e' c w (by decide) hc hw
    cases ht
  case expFirst =>
    rcases NumTr.of_ite ht with ⟨hc, rfl⟩ | ⟨_, ht⟩
    · exact ⟨c, w, rfl, hc, hw⟩
    cases ht
  case expRest =>
    rcases NumTr.of_ite ht with ⟨hc, rfl⟩ | ⟨_, ht⟩
    · exact AllDigits.cons hc hw
    exact absurd ht orFollow_ne_to

theorem gint_cons {c : Char} {w : List Char} {i r : List Char} (hi : GInt i) (h : c :: w = i ++ r) :
    (c = '0' ∧ i = ['0'] ∧ w = r) ∨ (isDigit19 c = true ∧ ∃ ds, i = c :: ds ∧ AllDigits ds ∧ w = ds ++ r) := by
  cases hi with
  | zero =>
    cases h
    exact .inl ⟨rfl, rfl, rfl⟩
  | nz c' ds hc hd =>
    cases h
    exact .inr ⟨hc, ds, rfl, hd, rfl⟩

theorem gexp_cons {c : Char} {w : List Char} (h : GExp (c :: w)) : isE c = true ∧ GExp ('e' :: w) := by
  refine ⟨?_, h.letter (by decide)⟩
  cases h with
  | plain _ _ _ he => exact he
  | signed _ _ _ _ he => exact he

theorem frac_exp_cons {c : Char} {w f x : List Char} (hf : GFrac f) (hx : GExp x) (h : c :: w = f ++ x) :
    (c = '.' ∧ ∃ c' ds, w = c' :: ds ++ x ∧ isDigit c' = true ∧ AllDigits ds) ∨
    (isE c = true ∧ GExp ('e' :: w)) := by
  cases hf with
  | some c' ds hc hd =>
    cases h
    exact .inl ⟨rfl, c', ds, rfl, hc, hd⟩
  | none =>
    cases h
    exact .inr (gexp_cons hx)

theorem suffix_step_complete (ctx : Ctx) {st : NumState} {c : Char} {w : List Char}
    (hw : Suffix st (c :: w)) : ∃ st', numTrans ctx st c = .to st' ∧ Suffix st' w := by
  cases st <;> simp only [Suffix] at hw
  case init =>
    generalize hcw : c :: w = t at hw
    cases hw with
    | neg i f e hi hf he =>
      simp at hcw; obtain ⟨rfl, rfl⟩ := hcw
      exact ⟨.firstDigit, by simp [numTrans], i, f, e, by simp, hi, hf, he⟩
    | pos i f e hi hf he =>
      rw [List.append_assoc] at hcw
      rcases gint_cons hi hcw with ⟨rfl, rfl, rfl⟩ | ⟨hc, ds, rfl, hd, rfl⟩
      · exact ⟨.zero, by simp [numTrans], f, e, rfl, hf, he⟩
      · have := digit_ne (d19_digit hc)
        exact ⟨.nonZero, by simp [numTrans, this.1, d19_ne0 hc, hc], ds, f, e, by simp, hd, hf, he⟩
  case firstDigit =>
    obtain ⟨i, f, x, h, hi, hf, hx⟩ := hw
    rw [List.append_assoc] at h
    rcases gint_cons hi h with ⟨rfl, rfl, rfl⟩ | ⟨hc, ds, rfl, hd, rfl⟩
    · exact ⟨.zero, by simp [numTrans], f, x, rfl, hf, hx⟩
    · exact ⟨.nonZero, by simp [numTrans, d19_ne0 hc, hc], ds, f, x, by simp, hd, hf, hx⟩
  case zero =>
    obtain ⟨f, x, h, hf, hx⟩ := hw
    rcases frac_exp_cons hf hx h with ⟨rfl, c', ds, rfl, hc', hd⟩ | ⟨he, hx'⟩
    · exact ⟨.fracFirst, by simp [numTrans], c', ds, x, rfl, hc', hd, hx⟩
    · exact ⟨.expSign, by simp [numTrans, isE_ne he, he], hx'⟩
  case nonZero =>
    obtain ⟨ds, f, x, h, hd, hf, hx⟩ := hw
    cases ds with
    | cons d ds' =>
      cases h
      exact ⟨.nonZero, by simp [numTrans, hd.head], ds', f, x, by simp, hd.tail, hf, hx⟩
    | nil =>
      rcases frac_exp_cons hf hx h with ⟨rfl, c', ds, rfl, hc', hd'⟩ | ⟨he, hx'⟩
      · exact ⟨.fracFirst, by simp [numTrans, isDigit], c', ds, x, rfl, hc', hd', hx⟩
      · exact ⟨.expSign, by simp [numTrans, isE_not_digit he, isE_ne he, he], hx'⟩
  case fracFirst =>
    obtain ⟨c', ds, x, h, hc', hd, hx⟩ := hw
    cases h
    exact ⟨.fracRest, by simp [numTrans, hc'], ds, x, rfl, hd, hx⟩
  case fracRest =>
    obtain ⟨ds, x, h, hd, hx⟩ := hw
    cases ds with
    | cons d ds' =>
      cases h
      exact ⟨.fracRest, by simp [numTrans, hd.head], ds', x, rfl, hd.tail, hx⟩
    | nil =>
      subst h
      obtain ⟨he, hx'⟩ := gexp_cons hx
      exact ⟨.expSign, by simp [numTrans, isE_not_digit he, he], hx'⟩
  case expSign =>
    cases hw with
    | plain _ c' ds he hc hd =>
      have := digit_ne hc
      exact ⟨.expRest, by simp [numTrans, this.1, this.2.1, hc], hd⟩
    | signed _ sg c' ds he hs hc hd =>
      exact ⟨.expFirst, by simp [numTrans, hs], c', ds, rfl, hc, hd⟩
  case expFirst =>
    obtain ⟨c', ds, h, hc, hd⟩ := hw
    cases h
    exact ⟨.expRest, by simp [numTrans, hc], hd⟩
  case expRest =>
    exact ⟨.expRest, by simp [numTrans, hw.head], hw.tail⟩

/-- nothing that may follow a value continues a number: whitespace, `,`, `]`, `:`, `}` -/
theorem follows_not_num {ctx : Ctx} {c : Char} (hf : ctx.follows c = true) :
    isDigit c = false ∧ c ≠ '.' ∧ isE c = false := by
  have ws : isWs c = true → isDigit c = false ∧ c ≠ '.' ∧ isE c = false := fun h => by
    simp only [isWs, Bool.or_eq_true, decide_eq_true_eq] at h
    rcases h with ((rfl | rfl) | rfl) | rfl <;> decide
  cases ctx with
  | none => exact ws hf
  | array =>
    simp only [Ctx.follows, Bool.or_eq_true, decide_eq_true_eq] at hf
    rcases hf with (h | rfl) | rfl
    · exact ws h
    · decide
    · decide
  | objectKey =>
    simp only [Ctx.follows, Bool.or_eq_true, decide_eq_true_eq] at hf
    rcases hf with h | rfl
    · exact ws h
    · decide
  | objectValue =>
    simp only [Ctx.follows, Bool.or_eq_true, decide_eq_true_eq] at hf
    rcases hf with (h | rfl) | rfl
    · exact ws h
    · decide
    · decide

theorem follows_stop {ctx : Ctx} {st : NumState} {c : Char} (hf : ctx.follows c = true)
    (ha : st.accepting = true) : numTrans ctx st c = .stop := by
  obtain ⟨hd, hp, he⟩ := follows_not_num hf
  -- in an accepting state every guard before `orFollow` asks for a digit, `.` or `e`: all false here
  cases st <;> simp only [NumState.accepting, Bool.false_eq_true] at ha <;>
    simp [numTrans, hd, hp, he, hf]

theorem NumRun.suffix {ctx : Ctx} {st st' : NumState} {w v : List Char} (h : NumRun ctx st w st')
    (hv : Suffix st' v) : Suffix st (w ++ v) := by
  induction h with
  | nil => exact hv
  | cons ht _ ih => exact suffix_step_sound ht (ih hv)

theorem NumRun.of_suffix (ctx : Ctx) : ∀ (w : List Char) {st : NumState} {v : List Char},
    Suffix st (w ++ v) → ∃ st', NumRun ctx st w st' ∧ Suffix st' v
  | [], st, _, h => ⟨st, .nil st, h⟩
  | c :: w, _, _, h => by
    obtain ⟨st1, ht, h1⟩ := suffix_step_complete ctx h
    obtain ⟨st', hr, h'⟩ := NumRun.of_suffix ctx w h1
    exact ⟨st', .cons ht hr, h'⟩

def FollowOK (ctx : Ctx) (r : List Char) : Prop := ∀ c r', r = c :: r' → ctx.follows c = true

theorem followOK_nil (ctx : Ctx) : FollowOK ctx [] := fun _ _ h => nomatch h

theorem followOK_ws {ctx : Ctx} {w : List Char} {c : Char} {x : List Char} (hw : IsWsL w)
    (hc : ctx.follows c = true) : FollowOK ctx (w ++ c :: x) := by
  intro d r' e
  cases w with
  | nil =>
    cases e
    exact hc
  | cons a w' =>
    cases e
    have := hw d List.mem_cons_self
    -- whitespace is in every follow set
    cases ctx <;> simp [Ctx.follows, this]

theorem followOK_none_ws {w : List Char} (hw : IsWsL w) : FollowOK .none w := by
  intro d r' e
  subst e
  simpa [Ctx.follows] using hw d List.mem_cons_self

theorem gnumber_head {n : List Char} (h : GNumber n) :
    ∃ c r, n = c :: r ∧ (isDigit c = true ∨ c = '-') := by
  cases h with
  | neg i f e => exact ⟨'-', _, rfl, .inr rfl⟩
  | pos i f e hi =>
    cases hi with
    | zero => exact ⟨'0', f ++ e, by simp, .inl (by decide)⟩
    | nz c ds hc => exact ⟨c, ds ++ (f ++ e), by simp, .inl (d19_digit hc)⟩

theorem digit_or_minus_ne {c : Char} (h : isDigit c = true ∨ c = '-') :
    c ≠ 'n' ∧ c ≠ 't' ∧ c ≠ 'f' ∧ isWs c = false := by
  rcases h with h | rfl
  · refine ⟨?_, ?_, ?_, Bool.eq_false_iff.2 fun hw => ?_⟩
    · rintro rfl; exact absurd h (by decide)
    · rintro rfl; exact absurd h (by decide)
    · rintro rfl; exact absurd h (by decide)
    · -- whitespace may follow a value, and nothing that may follow a value is a digit
      rw [(follows_not_num (ctx := .none) hw).1] at h
      cases h
  · decide

theorem numLoop_sound {ctx : Ctx} (l : List Char) {st : NumState} {buf : List Char} {pos : Nat}
    {st' : NumState} {buf' r : List Char} {p : Nat}
    (h : numLoop ctx st buf l pos = .ok (st', buf', r, p)) (ha : st'.accepting = true) :
    ∃ w, buf' = buf ++ w ∧ l = w ++ r ∧ p = pos + utf8Len w ∧ Suffix st w := by
  obtain ⟨w, hl, hr, _, hb, hp⟩ := numLoop_ok_inv h
  exact ⟨w, hb, hl, hp, by simpa using hr.suffix ((suffix_nil _).mpr ha)⟩

theorem numLoop_complete {ctx : Ctx} (w : List Char) {st : NumState} (buf r : List Char) (pos : Nat)
    (hs : Suffix st w) (hr : FollowOK ctx r) :
    ∃ st', numLoop ctx st buf (w ++ r) pos = .ok (st', buf ++ w, r, pos + utf8Len w) ∧
      st'.accepting = true := by
  obtain ⟨st', hrun, hnil⟩ := NumRun.of_suffix ctx w (v := []) (by simpa using hs)
  have ha := (suffix_nil _).mp hnil
  refine ⟨st', ?_, ha⟩
  rw [numLoop_run hrun, numLoop_stops]
  intro c hc
  cases r with
  | nil => cases hc
  | cons d r' => cases hc; exact follows_stop (hr _ _ rfl) ha

end JsonVerif
