import JsonVerif.Model.Object
/-!
# The key index is never stale (C06): invariant, how it is carried along, lookup lemmas

`InvMask S` is the invariant restricted to the positions that satisfy the mask `S`; the full
invariant is `Inv := InvMask (fun _ => true)`. The masked form is what holds *between* the index
operations of one object operation: positions below `n` during bulk construction, positions ≥ 1 in
the middle of `push_front`, every position but the removed one in the middle of `remove_at`.

Every index operation but the creation of a bucket acts bucket by bucket and keeps ghost keys, so
one lemma (`InvMask.filterMap`) carries the invariant through all of them: what is left to show
for each operation is what it does to the position list of one bucket.

Positions are spoken of with `posOf` / `keyAt` (`mem_posOf`), the plain-list refinements of the
operations with `filter` / `map` over the entries (`hasKey`, Lemmas/ObjFront.lean).
-/
namespace JsonVerif
open Obj

def posOf (k : Key) (es : List (Key × JValue)) : List Nat :=
  (List.range es.length).filter (fun i => keyAt es i == some k)

def posMask (S : Nat → Bool) (k : Key) (es : List (Key × JValue)) : List Nat :=
  (posOf k es).filter S

structure InvMask (S : Nat → Bool) (es : List (Key × JValue)) (bs : List Bucket) : Prop where
  nodup : (bs.map (·.gkey)).Nodup
  exact : ∀ b ∈ bs, b.all = posMask S b.gkey es
  cover : ∀ k, posMask S k es ≠ [] → ∃ b ∈ bs, b.gkey = k

def Inv (o : Obj) : Prop := InvMask (fun _ => true) o.entries o.buckets

variable {S S' : Nat → Bool} {es es' : List (Key × JValue)} {bs : List Bucket} {k : Key} {o : Obj}
  {i : Nat}

theorem lt_of_keyAt (h : keyAt es i = some k) : i < es.length :=
  let ⟨_, he, _⟩ := Option.map_eq_some_iff.mp h
  (List.getElem?_eq_some_iff.mp he).1

theorem keyAt_of_lt (h : i < es.length) : keyAt es i = some es[i].1 := by
  simp [keyAt, h]

theorem keyAt_inj {k' : Key} (h : keyAt es i = some k) (h' : keyAt es i = some k') : k = k' :=
  Option.some.inj (h.symm.trans h')

theorem mem_posOf : i ∈ posOf k es ↔ keyAt es i = some k := by
  simp only [posOf, List.mem_filter, List.mem_range, beq_iff_eq]
  exact ⟨And.right, fun h => ⟨lt_of_keyAt h, h⟩⟩

theorem mem_posMask : i ∈ posMask S k es ↔ keyAt es i = some k ∧ S i = true := by
  simp [posMask, mem_posOf]

theorem posOf_sorted (k : Key) (es : List (Key × JValue)) : (posOf k es).Pairwise (· < ·) :=
  List.Pairwise.filter _ List.pairwise_lt_range

theorem posMask_sorted (S : Nat → Bool) (k : Key) (es : List (Key × JValue)) :
    (posMask S k es).Pairwise (· < ·) :=
  List.Pairwise.filter _ (posOf_sorted k es)

theorem posMask_true (k : Key) (es : List (Key × JValue)) :
    posMask (fun _ => true) k es = posOf k es := by
  simp [posMask]

theorem posMask_congr (k : Key) (h : ∀ i, keyAt es i = some k → S i = S' i) :
    posMask S k es = posMask S' k es :=
  List.filter_congr fun i hi => h i (mem_posOf.mp hi)

theorem keyAt_cons_succ (e : Key × JValue) (es : List (Key × JValue)) (i : Nat) :
    keyAt (e :: es) (i + 1) = keyAt es i := rfl

theorem posOf_cons (k : Key) (e : Key × JValue) (es : List (Key × JValue)) :
    posOf k (e :: es) = (if e.1 = k then [0] else []) ++ (posOf k es).map (· + 1) := by
  rw [posOf, List.length_cons, List.range_succ_eq_map, List.filter_cons, List.filter_map]
  have h0 : (keyAt (e :: es) 0 == some k) = (e.1 == k) := Option.some_beq_some
  simp only [h0, beq_iff_eq]
  split <;> rfl

theorem sorted_ext {l1 l2 : List Nat} (h1 : l1.Pairwise (· < ·)) (h2 : l2.Pairwise (· < ·))
    (h : ∀ j, j ∈ l1 ↔ j ∈ l2) : l1 = l2 :=
  List.Perm.eq_of_pairwise (fun _ _ _ _ hab hba => absurd hba (Nat.lt_asymm hab)) h1 h2
    ((List.perm_ext_iff_of_nodup (h1.imp Nat.ne_of_lt) (h2.imp Nat.ne_of_lt)).mpr h)

theorem eq_posMask {l : List Nat} (hs : l.Pairwise (· < ·))
    (hm : ∀ i, i ∈ l ↔ keyAt es i = some k ∧ S i = true) :
    l = posMask S k es :=
  sorted_ext hs (posMask_sorted S k es) fun i => by rw [hm, mem_posMask]

/-- **Renumbering.** If the entries `es'` are the entries `es` moved along an increasing `f`
    (positions outside the image of `f` are masked out), position lists are mapped along `f`. -/
theorem posMask_image {f : Nat → Nat} (hmono : ∀ a b, a < b → f a < f b)
    (hkey : ∀ i, keyAt es' (f i) = keyAt es i) (himg : ∀ j, S j = true ↔ ∃ i, f i = j) (k : Key) :
    posMask S k es' = (posOf k es).map f := by
  refine (eq_posMask (List.pairwise_map.mpr ((posOf_sorted k es).imp (hmono _ _))) fun j => ?_).symm
  simp only [List.mem_map, mem_posOf, himg]
  constructor
  · rintro ⟨i, hi, rfl⟩; exact ⟨hkey i ▸ hi, i, rfl⟩
  · rintro ⟨hj, i, rfl⟩; exact ⟨i, hkey i ▸ hj, rfl⟩

/-- **How the invariant is carried through an index operation.** The operation treats each bucket
    on its own (`u`; `none` = the bucket is dropped) and keeps ghost keys; if every bucket ends up
    with the new position list of its key (mask `S'`, entries `es'`), dropped exactly when that
    list is empty, and no key without a bucket gains a position, the invariant holds again. -/
theorem InvMask.filterMap (h : InvMask S es bs) {u : Bucket → Option Bucket}
    (hu : ∀ b ∈ bs, match u b with
      | some b' => b'.gkey = b.gkey ∧ b'.all = posMask S' b.gkey es'
      | none => posMask S' b.gkey es' = [])
    (hc : ∀ k, posMask S' k es' ≠ [] → posMask S k es ≠ []) :
    InvMask S' es' (bs.filterMap u) := by
  have hsome : ∀ b ∈ bs, ∀ b', u b = some b' →
      b'.gkey = b.gkey ∧ b'.all = posMask S' b.gkey es' := fun b hb b' hub => by
    have := hu b hb
    rwa [hub] at this
  refine ⟨?_, ?_, ?_⟩
  · refine List.pairwise_map.mpr ((List.Pairwise.and_mem.mp (List.pairwise_map.mp h.nodup)).filterMap u ?_)
    rintro a a' ⟨ha, ha', hne⟩ b hb b' hb'
    rw [(hsome a ha b hb).1, (hsome a' ha' b' hb').1]
    exact hne
  · intro b' hb'
    obtain ⟨b, hb, hub⟩ := List.mem_filterMap.mp hb'
    obtain ⟨hg, ha⟩ := hsome b hb b' hub
    rw [hg]
    exact ha
  · intro k hk
    obtain ⟨b, hb, rfl⟩ := h.cover k (hc k hk)
    cases hub : u b with
    | none =>
      have := hu b hb
      rw [hub] at this
      exact absurd this hk
    | some b' => exact ⟨b', List.mem_filterMap.mpr ⟨b, hb, hub⟩, (hsome b hb b' hub).1⟩

theorem InvMask.map (h : InvMask S es bs) {f : Bucket → Bucket}
    (hf : ∀ b ∈ bs, (f b).gkey = b.gkey ∧ (f b).all = posMask S' b.gkey es')
    (hc : ∀ k, posMask S' k es' ≠ [] → posMask S k es ≠ []) :
    InvMask S' es' (bs.map f) :=
  List.filterMap_eq_map' ▸ h.filterMap (u := fun b => some (f b)) hf hc

theorem InvMask.snoc (h : InvMask S es bs) {b : Bucket} (hn : posMask S b.gkey es = [])
    (hb : b.all = posMask S' b.gkey es')
    (ho : ∀ k, k ≠ b.gkey → posMask S' k es' = posMask S k es) :
    InvMask S' es' (bs ++ [b]) := by
  have hne : ∀ c ∈ bs, c.gkey ≠ b.gkey := fun c hc e => by
    have := h.exact c hc
    rw [e, hn] at this
    cases this
  refine ⟨?_, ?_, ?_⟩
  · rw [List.map_append, List.nodup_append]
    refine ⟨h.nodup, by simp, ?_⟩
    simp only [List.map_cons, List.map_nil, List.mem_map, List.mem_singleton]
    rintro _ ⟨c, hc, rfl⟩ _ rfl
    exact hne c hc
  · intro c hc
    rcases List.mem_append.mp hc with hc | hc
    · rw [ho _ (hne c hc)]; exact h.exact c hc
    · rw [List.mem_singleton.mp hc]; exact hb
  · intro k hk
    by_cases e : k = b.gkey
    · exact ⟨b, by simp, e.symm⟩
    · obtain ⟨c, hc, hck⟩ := h.cover k (ho k e ▸ hk)
      exact ⟨c, List.mem_append_left _ hc, hck⟩

theorem InvMask.of_posMask_eq (h : InvMask S es bs)
    (he : ∀ k, posMask S' k es' = posMask S k es) : InvMask S' es' bs :=
  ⟨h.nodup, fun b hb => (h.exact b hb).trans (he _).symm, fun k hk => h.cover k (he k ▸ hk)⟩

theorem InvMask.congr (h : InvMask S es bs) (hs : ∀ i, i < es.length → S i = S' i) :
    InvMask S' es bs :=
  h.of_posMask_eq fun k => (posMask_congr k fun i hi => hs i (lt_of_keyAt hi)).symm

theorem InvMask.nil (h : ∀ k, posMask S k es = []) : InvMask S es [] :=
  ⟨List.nodup_nil, fun _ hb => (nomatch hb), fun k hk => absurd (h k) hk⟩

/-- under the invariant the chain-and-equality test of a lookup is the test of the ghost key -/
theorem InvMask.test_eq (h : InvMask S es bs) {b : Bucket} (hb : b ∈ bs) (k : Key) :
    (b.gkey == k && keyAt es b.rep == some k) = (b.gkey == k) := by
  have : b.rep ∈ posMask S b.gkey es := h.exact b hb ▸ List.mem_cons_self
  by_cases hk : b.gkey = k
  · simp [← hk, (mem_posMask.mp this).1]
  · simp [hk]

theorem findBucket_inv (h : InvMask S es bs) (k : Key) :
    (∃ b, findBucket es bs k = some b ∧ b ∈ bs ∧ b.gkey = k ∧ b.all = posMask S k es) ∨
    (findBucket es bs k = none ∧ posMask S k es = []) := by
  cases hf : findBucket es bs k with
  | some b =>
    have hb := List.mem_of_find?_eq_some hf
    have hk : b.gkey = k := by simpa [h.test_eq hb] using List.find?_some hf
    exact .inl ⟨b, rfl, hb, hk, hk ▸ h.exact b hb⟩
  | none =>
    refine .inr ⟨rfl, Classical.byContradiction fun hp => ?_⟩
    obtain ⟨b, hb, hk⟩ := h.cover k hp
    have := List.find?_eq_none.mp hf b hb
    rw [h.test_eq hb] at this
    exact this (beq_iff_eq.mpr hk)

theorem indexesOf_eq (h : Inv o) (k : Key) : o.indexesOf k = posOf k o.entries := by
  unfold indexesOf
  rw [← posMask_true]
  rcases findBucket_inv h k with ⟨b, hf, _, _, ha⟩ | ⟨hf, hn⟩
  · rw [hf]
    exact ha
  · rw [hf]
    exact hn.symm

/-- the other queries read the same bucket -/
theorem queries_of_indexesOf (o : Obj) (k : Key) :
    o.indexOf k = (o.indexesOf k).head? ∧ o.redundantIndexOf k = (o.indexesOf k)[1]? ∧
    o.containsKey k = !(o.indexesOf k).isEmpty := by
  unfold indexOf redundantIndexOf containsKey indexesOf
  cases findBucket o.entries o.buckets k with
  | none => exact ⟨rfl, rfl, rfl⟩
  | some b => exact ⟨rfl, List.head?_eq_getElem?, rfl⟩

theorem indexOf_eq (h : Inv o) (k : Key) : o.indexOf k = (posOf k o.entries).head? := by
  rw [(queries_of_indexesOf o k).1, indexesOf_eq h]

theorem redundantIndexOf_eq (h : Inv o) (k : Key) :
    o.redundantIndexOf k = (posOf k o.entries)[1]? := by
  rw [(queries_of_indexesOf o k).2.1, indexesOf_eq h]

theorem containsKey_eq (h : Inv o) (k : Key) : o.containsKey k = !(posOf k o.entries).isEmpty := by
  rw [(queries_of_indexesOf o k).2.2, indexesOf_eq h]

theorem getEntries_eq (h : Inv o) (k : Key) :
    o.getEntries k = some (o.entries.filter (fun e => e.1 == k)) := by
  unfold getEntries
  rw [indexesOf_eq h]
  generalize o.entries = es
  induction es with
  | nil => rfl
  | cons e es ih =>
    rw [posOf_cons, List.mapM_append, List.mapM_map]
    simp only [Function.comp_def, List.getElem?_cons_succ, ih]
    by_cases hk : e.1 = k <;> simp [hk]

end JsonVerif
