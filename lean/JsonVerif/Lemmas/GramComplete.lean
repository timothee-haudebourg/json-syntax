import JsonVerif.Lemmas.GramSound
import JsonVerif.Lemmas.LGramComplete
/-!
# Completeness at the strict record

`Len.rd_complete` (Lemmas/LGramComplete.lean) at `so`, against the RFC 8259 grammar.
-/
namespace JsonVerif

/-- `Len.LTail` for the RFC 8259 grammar -/
inductive GTail : List Char → List Char → List JEntry → Prop
  | one (w3 t w4 key : List Char) (v : JValue) : IsWsL w3 → GValue t v → IsWsL w4 →
      GTail (w3 ++ t ++ w4) key [(key, v)]
  | cons (w3 t w4 w1 k w2 ts key key' : List Char) (v : JValue) (es : List JEntry) :
      IsWsL w3 → GValue t v → IsWsL w4 → IsWsL w1 → GString k key' → IsWsL w2 → GTail ts key' es →
      GTail (w3 ++ t ++ w4 ++ ',' :: (w1 ++ k ++ w2 ++ ':' :: ts)) key ((key, v) :: es)

theorem GTail.lenient (o : ParseOptions) {tl key : List Char} {es : List JEntry} (h : GTail tl key es) :
    Len.LTail o tl key es := by
  induction h with
  | one w3 t w4 key v h3 hv h4 => exact .one w3 t w4 key v h3 (hv.lenient o) h4
  | cons w3 t w4 w1 k w2 ts key key' v es h3 hv h4 h1 hk h2 _ ih =>
    exact .cons w3 t w4 w1 k w2 ts key key' v es h3 (hv.lenient o) h4 h1 (hk.lenient o) h2 ih

theorem rd_complete : ∀ n,
    (∀ t v, GValue t v → ∀ ctx (s : PS) w r, s.rest = w ++ t ++ r → IsWsL w → FollowOK ctx r →
      s.bad = false → 2 * s.rest.length + 1 ≤ n →
      ∃ s', rdValue so n ctx s = .ok (v, s') ∧ Post s s' r) ∧
    (∀ t vs, GItems t vs → ∀ acc i (s : PS) r, s.rest = t ++ ']' :: r → s.bad = false → i < s.cm.size →
      2 * s.rest.length + 2 ≤ n →
      ∃ s', rdItems so n acc i s = .ok (.array (acc ++ vs), s') ∧ Post s s' r) ∧
    (∀ tl key es, GTail tl key es → ∀ acc i e (s : PS) r, s.rest = tl ++ '}' :: r → s.bad = false →
      i < s.cm.size → e < s.cm.size → 2 * s.rest.length + 2 ≤ n →
      ∃ s', rdMembers so n acc i key e s = .ok (.object (acc ++ es), s') ∧ Post s s' r) := fun n =>
  let ⟨hV, hI, hM⟩ := Len.rd_complete (o := so) n
  ⟨fun t v h => hV t v (h.lenient so), fun t vs h => hI t vs (h.lenient so),
    fun tl key es h => hM tl key es (h.lenient so)⟩

end JsonVerif
