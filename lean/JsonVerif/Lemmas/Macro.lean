import JsonVerif.Spec.MacroDoc
/-! # `json!` builds the value the same literal denotes as JSON (C19) -/
namespace JsonVerif

theorem keyOf_keyTok (env : List Char → Option (List Char)) (st : KeyStyle) (k : List Char)
    (h : match st with | .var x => env x = some k | _ => True) : keyOf env [keyTok st k] = some k := by
  cases st with
  | lit => rfl
  | paren => rfl
  | var x => exact h

theorem docTok_not_sep (d : Doc) : docTok d ≠ .comma ∧ docTok d ≠ .colon := by
  cases d with
  | bool b => cases b <;> simp [docTok]
  | _ => simp [docTok]

theorem munchArray_elem (env : List Char → Option (List Char)) (acc : List JValue) (t : Tok)
    (rest : List Tok) (h1 : t ≠ .comma) (h2 : t ≠ .colon) :
    munchArray env acc false (t :: rest) =
      match expandTok env t with
      | some v => munchArray env (acc ++ [v]) true rest
      | none => none := by
  cases t with
  | comma => exact absurd rfl h1
  | colon => exact absurd rfl h2
  | _ => rfl

/-- An item and whatever separates it from the rest (a comma, a trailing comma, the end) take the
    muncher to the rest with the item's value appended. -/
theorem munchArray_cons (env : List Char → Option (List Char)) (acc : List JValue) (d : Doc)
    (r : List Doc) (tr : Bool) {v : JValue} (hd : expandTok env (docTok d) = some v) :
    munchArray env acc false (itemsToks (d :: r) tr) =
      munchArray env (acc ++ [v]) false (itemsToks r tr) := by
  have hs := docTok_not_sep d
  cases r with
  | nil => cases tr <;> simp [itemsToks, munchArray_elem _ _ _ _ hs.1 hs.2, hd, munchArray]
  | cons d' r => simp [itemsToks, munchArray_elem _ _ _ _ hs.1 hs.2, hd, munchArray]

theorem munchObject_cons (env : List Char → Option (List Char)) (acc : List (List Char × JValue))
    (st : KeyStyle) (k : List Char) (d : Doc) (r : List (KeyStyle × List Char × Doc)) (tr : Bool)
    {v : JValue} (hk : keyOf env [keyTok st k] = some k) (hd : expandTok env (docTok d) = some v) :
    munchObject env acc false (entriesToks ((st, k, d) :: r) tr) =
      munchObject env (acc ++ [(k, v)]) false (entriesToks r tr) := by
  cases r with
  | nil => cases tr <;> simp [entriesToks, munchObject, hk, hd]
  | cons e r => simp [entriesToks, munchObject, hk, hd]

mutual
theorem expandTok_doc (env : List Char → Option (List Char)) :
    ∀ d : Doc, EnvOk env d → expandTok env (docTok d) = some (docValue d)
  | .null, _ => rfl
  | .bool true, _ => rfl
  | .bool false, _ => rfl
  | .str _, _ => rfl
  | .int _, _ => rfl
  | .float _ _, _ => rfl
  | .arr items tr, h => by
    rw [docTok, expandTok, munchArray_items env items tr [] h]; rfl
  | .obj es tr, h => by
    rw [docTok, expandTok, munchObject_entries env es tr [] h]; rfl
theorem munchArray_items (env : List Char → Option (List Char)) :
    ∀ (items : List Doc) (tr : Bool) (acc : List JValue), EnvOkL env items →
      munchArray env acc false (itemsToks items tr) = some (acc ++ itemsValues items)
  | [], _, acc, _ => by rw [itemsValues, List.append_nil]; rfl
  | d :: r, tr, acc, h => by
    rw [munchArray_cons env acc d r tr (expandTok_doc env d h.1), munchArray_items env r tr _ h.2,
      List.append_assoc]
    rfl
theorem munchObject_entries (env : List Char → Option (List Char)) :
    ∀ (es : List (KeyStyle × List Char × Doc)) (tr : Bool) (acc : List (List Char × JValue)),
      EnvOkM env es →
      munchObject env acc false (entriesToks es tr) = some (acc ++ entriesValues es)
  | [], _, acc, _ => by rw [entriesValues, List.append_nil]; rfl
  | (st, k, d) :: r, tr, acc, h => by
    rw [munchObject_cons env acc st k d r tr (keyOf_keyTok env st k h.1) (expandTok_doc env d h.2.1),
      munchObject_entries env r tr _ h.2.2, List.append_assoc]
    rfl
end

end JsonVerif
