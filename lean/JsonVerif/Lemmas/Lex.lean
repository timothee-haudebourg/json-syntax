import JsonVerif.Lemmas.Local
import JsonVerif.Lemmas.SurrRaw
/-!
# The frame properties of a lexer, by the shape of its program

Every primitive has them, `bind` and the branching combinators preserve them: a lexer then has them
by the shape of its program (`X_eq`).
-/
namespace JsonVerif

namespace Lex

/-- A well-behaved lexer (`WB`). `adv`: it consumes a prefix of the input; `err`: its errors point
    into what it was given; `errIn`: its surrogate errors blame the escapes at fault; `loc`,
    `loc_err`: what it does strictly inside a prefix `l` of the unread input does not depend on what
    follows `l`. `loc_err` is about unexpected CHARACTERS only (`some c`): running into the end of
    the input is an error that more input removes. -/
structure WB (m : Lex α) : Prop where
  adv : ∀ {s a s'}, m s = .ok (a, s') → Adv s s'
  err : ∀ {s e}, m s = .error e → ErrOkS s e
  loc : ∀ {s a s' l x}, s.rest = l ++ x → m s = .ok (a, s') → s'.pos < s.pos + utf8Len l →
    ∃ r, s'.rest = r ++ x ∧ ∀ y, m (s.re (l ++ y)) = .ok (a, s'.re (r ++ y))
  loc_err : ∀ {s l x q c}, s.rest = l ++ x → m s = .error (.unexpected q (some c)) →
    q < s.pos + utf8Len l → ∀ y, m (s.re (l ++ y)) = .error (.unexpected q (some c))
  errIn : ∀ {s e}, m s = .error e → ErrInS s e

theorem WB.pure (a : α) : WB (pure a) where
  adv h := by cases h; exact Adv.refl _
  err h := by cases h
  loc hs h _ := by cases h; exact ⟨_, hs, fun _ => rfl⟩
  loc_err _ h := by cases h
  errIn h := by cases h

/-- The second lexer starts where the first stopped, at or after the start and, if the whole ends
    strictly inside `l`, strictly inside `l` as well: so locality of the first applies, and hands
    the second the rest of `l` as its prefix. -/
theorem WB.bind {m : Lex α} {k : α → Lex β} (hm : WB m) (hk : ∀ a, WB (k a)) : WB (bind m k) where
  adv h := by
    obtain ⟨a, _, h1, h2⟩ := bind_ok.1 h
    exact (hm.adv h1).trans ((hk a).adv h2)
  err h := by
    rcases bind_error.1 h with h1 | ⟨a, _, h1, h2⟩
    · exact hm.err h1
    · exact ((hk a).err h2).lift (hm.adv h1)
  loc {s b s2 l x} hs h hlt := by
    obtain ⟨a, _, h1, h2⟩ := bind_ok.1 h
    obtain ⟨_, hr1, hy1⟩ := hm.loc hs h1 (Nat.lt_of_le_of_lt ((hk a).adv h2).1.le hlt)
    obtain ⟨r2, hr2, hy2⟩ := (hk a).loc hr1 h2 (local_bound (hm.adv h1) hs hr1 ▸ hlt)
    exact ⟨r2, hr2, fun y => bind_ok.2 ⟨a, _, hy1 y, hy2 y⟩⟩
  loc_err {s l x q c} hs h hlt y := by
    rcases bind_error.1 h with h1 | ⟨a, _, h1, h2⟩
    · exact bind_error.2 (.inl (hm.loc_err hs h1 hlt y))
    · obtain ⟨_, hr1, hy1⟩ := hm.loc hs h1 (Nat.lt_of_le_of_lt ((hk a).err h2).pos_le hlt)
      exact bind_error.2 (.inr ⟨a, _, hy1 y,
        (hk a).loc_err hr1 h2 (local_bound (hm.adv h1) hs hr1 ▸ hlt) y⟩)
  errIn h := by
    rcases bind_error.1 h with h1 | ⟨a, _, h1, h2⟩
    · exact hm.errIn h1
    · exact ((hk a).errIn h2).lift (hm.adv h1)

theorem WB.ite {c : Prop} [Decidable c] {a b : Lex α} (ha : WB a) (hb : WB b) :
    WB (if c then a else b) := by
  split <;> assumption

theorem WB.peekC {k : Char → Lex α} (hk : ∀ c, WB (k c)) : WB (peekC k) where
  adv h := by
    obtain ⟨c, _, _, h⟩ := peekC_ok.1 h
    exact (hk c).adv h
  err h := by
    rcases peekC_error.1 h with ⟨hr, rfl⟩ | ⟨c, _, _, h⟩
    · exact eofErr_errOk _ hr
    · exact (hk c).err h
  loc {s a s' l x} hs h hlt := by
    obtain ⟨c, _, hr, h⟩ := peekC_ok.1 h
    -- ending strictly inside `l` means `l ≠ []` (`head_of_lt`): `l ++ y` starts as `l ++ x` does,
    -- so the same character is looked at; the other rules that look ahead use it in the same way
    obtain ⟨_, _, rfl⟩ := head_of_lt hs rfl (Nat.lt_of_le_of_lt ((hk c).adv h).1.le hlt)
    obtain ⟨r, hr', hy⟩ := (hk c).loc hs h hlt
    rw [hs] at hr
    cases hr
    exact ⟨r, hr', fun y => (peekC_cons rfl).trans (hy y)⟩
  loc_err {s l x q c} hs h hlt y := by
    rcases peekC_error.1 h with ⟨_, he⟩ | ⟨d, _, hr, h⟩
    · cases (PS.eofErr_unexpected he.symm).2
    · obtain ⟨_, _, rfl⟩ := head_of_lt hs rfl (Nat.lt_of_le_of_lt ((hk d).err h).pos_le hlt)
      rw [hs] at hr
      cases hr
      exact (peekC_cons rfl).trans ((hk d).loc_err hs h hlt y)
  errIn h := by
    rcases peekC_error.1 h with ⟨_, rfl⟩ | ⟨c, _, _, h⟩
    · exact errIn_of_notSurr (PS.eofErr_eq _ ▸ eofErrAt_ns _ _)
    · exact (hk c).errIn h

theorem WB.peek {k : Option Char → Lex α} (hk : ∀ c, WB (k c)) : WB (peek k) where
  adv h := (hk _).adv h
  err h := (hk _).err h
  loc {s a s' l x} hs h hlt := by
    obtain ⟨_, _, rfl⟩ := head_of_lt hs rfl (Nat.lt_of_le_of_lt ((hk _).adv h).1.le hlt)
    obtain ⟨r, hr, hy⟩ := (hk _).loc hs h hlt
    exact ⟨r, hr, fun y => by simpa [Lex.peek, hs] using hy y⟩
  loc_err {s l x q c} hs h hlt y := by
    obtain ⟨_, _, rfl⟩ := head_of_lt hs rfl (Nat.lt_of_le_of_lt ((hk _).err h).pos_le hlt)
    simpa [Lex.peek, hs] using (hk _).loc_err hs h hlt y
  errIn h := (hk _).errIn h

theorem WB.unexpectedHere : WB (unexpectedHere : Lex α) where
  adv h := by cases h
  err h := by cases h; exact BdryC.here _ _
  loc _ h := by cases h
  loc_err {s l x q c} hs h hlt y := by
    simp only [Lex.unexpectedHere, Except.error.injEq, PErr.unexpected.injEq] at h
    obtain ⟨_, _, rfl⟩ := head_of_lt hs rfl (Nat.lt_of_le_of_lt (Nat.le_of_eq h.1) hlt)
    simp only [hs, List.cons_append, List.head?_cons] at h
    simp [Lex.unexpectedHere, h.1, h.2]
  errIn h := by cases h; trivial

theorem next_adv {s : PS} {a : Unit} {s' : PS} (h : next s = .ok (a, s')) : Adv s s' := by
  unfold next at h
  split at h <;> cases h
  · exact Adv.refl _
  · exact adv_step ‹_›

theorem WB.next : WB next where
  adv := next_adv
  err h := (next_ne_error h).elim
  loc {s a s' l x} hs h hlt := by
    obtain ⟨_, l', rfl⟩ := head_of_lt hs rfl (Nat.lt_of_le_of_lt (next_adv h).1.le hlt)
    cases (next_ok hs).1 h
    exact ⟨l', rfl, fun y => (next_ok (s := s.re _) rfl).2 rfl⟩
  loc_err _ h := (next_ne_error h).elim
  errIn h := (next_ne_error h).elim

theorem WB.reserve : WB reserve where
  adv h := by cases h; exact adv_reserve _
  err h := by cases h
  loc hs h _ := by cases h; exact ⟨_, hs, fun _ => rfl⟩
  loc_err _ h := by cases h
  errIn h := by cases h

/-- a function that returns only the new state and raises no surrogate error, by its frame lemmas -/
theorem WB.lift {f : PS → Except PErr PS} (adv : ∀ {s s'}, f s = .ok s' → Adv s s')
    (err : ∀ {s e}, f s = .error e → ErrOkS s e)
    (loc : ∀ {s s' l x}, s.rest = l ++ x → f s = .ok s' → s'.pos < s.pos + utf8Len l →
      ∃ r, s'.rest = r ++ x ∧ ∀ y, f (s.re (l ++ y)) = .ok (s'.re (r ++ y)))
    (loc_err : ∀ {s l x q c}, s.rest = l ++ x → f s = .error (.unexpected q (some c)) →
      q < s.pos + utf8Len l → ∀ y, f (s.re (l ++ y)) = .error (.unexpected q (some c)))
    (ns : ∀ {s e}, f s = .error e → NotSurr e) : WB (lift f) where
  adv h := adv (lift_ok.1 h)
  err h := err (lift_error.1 h)
  loc hs h hlt := by
    obtain ⟨r, hr, hy⟩ := loc hs (lift_ok.1 h) hlt
    exact ⟨r, hr, fun y => lift_ok.2 (hy y)⟩
  loc_err hs h hlt y := lift_error.2 (loc_err hs (lift_error.1 h) hlt y)
  errIn h := errIn_of_notSurr (ns (lift_error.1 h))

theorem WB.endFragment (i : Nat) : WB (Lex.lift (·.endFragment i)) :=
  .lift adv_end (fun h => by rw [(endFragment_error.1 h).2]; trivial)
    (fun hs h _ => ⟨_, (endFragment_rest h).1 ▸ hs, fun _ => endFragment_re h _⟩)
    (fun _ h => by cases (endFragment_error.1 h).2) (fun h => (endFragment_error.1 h).2 ▸ trivial)

theorem WB.skipWs : WB (Lex.lift skipWs) :=
  .lift skipWs_adv skipWs_errOk skipWs_local (fun _ h => absurd h skipWs_no_unexpected) skipWs_ns

theorem WB.expectChar (c : Char) : WB (Lex.lift (expectChar c)) :=
  expectChar_eq c ▸ .peekC fun _ => .ite .next .unexpectedHere

theorem WB.expectChars : ∀ cs : List Char, WB (Lex.lift (expectChars cs))
  | [] => WB.pure ()  -- `lift (expectChars [])` unfolds to `pure ()`
  | c :: cs => expectChars_cons c cs ▸ .bind (.expectChar c) fun _ => WB.expectChars cs

/-- a raw scanner given by its frame lemmas, stated on `(bad, input, offset)` -/
theorem WB.raw {f : Bool → List Char → Nat → Except PErr (α × List Char × Nat)}
    (adv : ∀ {bad l pos a r p}, f bad l pos = .ok (a, r, p) → AdvL l pos r p)
    (err : ∀ {bad l pos e}, f bad l pos = .error e → ErrOk l pos bad e)
    (loc : ∀ {bad l x pos a r' p}, f bad (l ++ x) pos = .ok (a, r', p) → p < pos + utf8Len l →
      ∃ r, r' = r ++ x ∧ ∀ y, f bad (l ++ y) pos = .ok (a, r ++ y, p))
    (loc_err : ∀ {bad l x pos q c}, f bad (l ++ x) pos = .error (.unexpected q (some c)) →
      q < pos + utf8Len l → ∀ y, f bad (l ++ y) pos = .error (.unexpected q (some c)))
    (errIn : ∀ {bad l pos e}, f bad l pos = .error e → ErrIn l pos e) : WB (raw f) where
  adv h := by obtain ⟨_, _, h1, rfl⟩ := raw_ok.1 h; exact ⟨adv h1, rfl, Nat.le_refl _⟩
  err h := err (raw_error.1 h)
  loc {s a s' l x} hs h hlt := by
    obtain ⟨_, _, h1, rfl⟩ := raw_ok.1 h
    rw [hs] at h1
    obtain ⟨r, rfl, hy⟩ := loc h1 hlt
    exact ⟨r, rfl, fun y => raw_ok.2 ⟨_, _, hy y, rfl⟩⟩
  loc_err {s l x q c} hs h hlt y := by
    have h1 := raw_error.1 h
    rw [hs] at h1
    exact raw_error.2 (loc_err h1 hlt y)
  errIn h := errIn (raw_error.1 h)

theorem WB.numScan (ctx : Ctx) : WB (Lex.raw (numScan ctx)) :=
  .raw numScan_adv numScan_errOk numScan_local numScan_local_err fun h => errIn_of_notSurr (numScan_ns h)

theorem WB.strScan (o : ParseOptions) : WB (Lex.raw (strScan o)) :=
  .raw strScan_adv strScan_errOk strScan_local strScan_local_err strScan_in

theorem WB.close (i : Nat) (a : α) : WB (close i a) := .bind (.endFragment i) fun _ => .pure a

theorem WB.literal (cs : List Char) (i : Nat) (a : α) : WB (literal cs i a) :=
  .bind (.expectChars cs) fun _ => .close i a

theorem WB.closer (i : Nat) (a : α) : WB (closer i a) := .bind .next fun _ => .close i a

theorem WB.opener {c d : Char} {v : α} {k : Nat → Lex α} (hk : ∀ i, WB (k i)) : WB (opener c d v k) :=
  .bind .reserve fun i => .bind (.expectChar c) fun _ => .bind .skipWs fun _ => .peek fun _ =>
    .ite (.closer i v) (hk i)

end Lex
end JsonVerif
