import JsonVerif.Lemmas.CanonThm
import JsonVerif.Lemmas.Serde
/-!
# Canonicalization does not see number spelling (C10)

`canon nc` of a value whose numbers were already sent through `nc` is `canon nc` of the value,
when `nc` is idempotent. Hence two values that are equal up to member order once every number is
replaced by its canonical spelling have the same canonical form.
-/
namespace JsonVerif

mutual
theorem canon_mapNumbers (nc : List Char → List Char) (hnc : ∀ n, nc (nc n) = nc n) :
    ∀ v : JValue, canon nc (mapNumbers nc v) = canon nc v
  | .null => rfl
  | .bool _ => rfl
  | .string _ => rfl
  | .number n => by simp [mapNumbers, canon, hnc]
  | .array xs => by simp only [mapNumbers, canon, canonL_mapNumbers nc hnc xs]
  | .object es => by simp only [mapNumbers, canon, canonM_mapNumbers nc hnc es]
theorem canonL_mapNumbers (nc : List Char → List Char) (hnc : ∀ n, nc (nc n) = nc n) :
    ∀ xs : List JValue, canonL nc (mapNumbersL nc xs) = canonL nc xs
  | [] => rfl
  | x :: xs => by
    simp only [mapNumbersL, canonL, canon_mapNumbers nc hnc x, canonL_mapNumbers nc hnc xs]
theorem canonM_mapNumbers (nc : List Char → List Char) (hnc : ∀ n, nc (nc n) = nc n) :
    ∀ es : List (List Char × JValue), canonM nc (mapNumbersM nc es) = canonM nc es
  | [] => rfl
  | (k, x) :: es => by
    simp only [mapNumbersM, canonM, canon_mapNumbers nc hnc x, canonM_mapNumbers nc hnc es]
end

def SameUpToOrderAndNumbers (nc : List Char → List Char) (a b : JValue) : Prop :=
  PermEq (mapNumbers nc a) (mapNumbers nc b)

theorem canon_blind (nc : List Char → List Char) (hnc : ∀ n, nc (nc n) = nc n) {a b : JValue}
    (h : SameUpToOrderAndNumbers nc a b) : canon nc a = canon nc b := by
  rw [← canon_mapNumbers nc hnc a, ← canon_mapNumbers nc hnc b]
  exact canon_permEq nc h

mutual
theorem canon_permEq_mapNumbers (nc : List Char → List Char) :
    ∀ v : JValue, PermEq (mapNumbers nc v) (canon nc v)
  | .null => .null
  | .bool b => .bool b
  | .string s => .string s
  | .number _ => .number _
  | .array xs => .array (canonL_permEq_mapNumbers nc xs)
  | .object es => .object (.ofPW (canonM_pw_mapNumbers nc es) (List.mergeSort_perm _ _).symm)
theorem canonL_permEq_mapNumbers (nc : List Char → List Char) :
    ∀ xs : List JValue, PermEqL (mapNumbersL nc xs) (canonL nc xs)
  | [] => .nil
  | x :: xs => .cons (canon_permEq_mapNumbers nc x) (canonL_permEq_mapNumbers nc xs)
theorem canonM_pw_mapNumbers (nc : List Char → List Char) :
    ∀ es : List (List Char × JValue), PW (mapNumbersM nc es) (canonM nc es)
  | [] => .nil
  | (_, x) :: es => .cons (canon_permEq_mapNumbers nc x) (canonM_pw_mapNumbers nc es)
end

theorem canon_unique (nc : List Char → List Char) (hnc : ∀ n, nc (nc n) = nc n) (v w : JValue)
    (hp : PermEq (mapNumbers nc v) w) (hs : AllSorted w) (hn : NumsFixed nc w) : w = canon nc v := by
  rw [← canon_mapNumbers nc hnc v, canon_permEq nc hp, canon_fixed nc w hs hn]

end JsonVerif
