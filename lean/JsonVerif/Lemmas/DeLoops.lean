import JsonVerif.Model.De
/-!
# What one round of each loop of the deserializer does

Each loop and each arm of `de` / `deVariant` that hands a sub-result on is written as an equation in
`map` / `bind` form or as an iff on success, so that a statement about the sub-result is carried to the
whole by `Except.map_ok_of` / `Except.bind_ok_of` (Lemmas/DePerm.lean). The round trip (Lemmas/DeSer.lean)
evaluates `de` on the value `ser` built and needs only `simp only [de, h]` there. `structVisit` names
the struct visitor, which the model writes out in `de` and again in `deVariant`.
-/
namespace JsonVerif

/-- a round of `mapE` goes on exactly when the element deserializes and the rest of the loop
    succeeds; likewise the tuple visitor (`deTuple_cons_ok`) and the positional struct visitor
    (`deFieldsSeq_cons_ok`) below -/
theorem mapE_cons_ok {α β : Type} {f : α → Except DeErr β} {x : α} {xs : List α} {ds : List β} :
    mapE f (x :: xs) = .ok ds ↔ ∃ d ds', f x = .ok d ∧ mapE f xs = .ok ds' ∧ ds = d :: ds' := by
  simp only [mapE]
  cases f x with
  | error e => simp
  | ok d =>
    cases mapE f xs with
    | error e => simp
    | ok l => simp [eq_comm]

theorem mapE_ok {α β : Type} (f : α → Except DeErr β) : ∀ (xs : List α) (ys : List β),
    xs.map f = ys.map Except.ok → mapE f xs = .ok ys := by
  intro xs
  induction xs with
  | nil =>
    intro ys h
    cases ys with
    | nil => rfl
    | cons _ _ => cases h
  | cons x xs ih =>
    intro ys h
    cases ys with
    | nil => cases h
    | cons y ys =>
      obtain ⟨h1, h2⟩ := List.cons.inj h
      exact mapE_cons_ok.2 ⟨y, ys, h1, ih ys h2, rfl⟩

theorem deTuple_cons_ok {env : FEnv} {t : DTy} {ts : List DTy} {x : JValue} {xs rest : List JValue}
    {ds : List SData} :
    deTuple env (t :: ts) (x :: xs) = .ok (ds, rest) ↔
      ∃ d ds', de env t x = .ok d ∧ deTuple env ts xs = .ok (ds', rest) ∧ ds = d :: ds' := by
  simp only [deTuple]
  cases de env t x with
  | error e => simp
  | ok d =>
    cases deTuple env ts xs with
    | error e => simp
    | ok p =>
      constructor
      · rintro ⟨⟩; exact ⟨d, _, rfl, rfl, rfl⟩
      · rintro ⟨_, _, ⟨⟩, ⟨⟩, rfl⟩; rfl

theorem deFieldsSeq_cons_ok {env : FEnv} {n : List Char} {t : DTy} {fs : List (List Char × DTy)}
    {x : JValue} {xs rest : List JValue} {ds : List (List Char × SData)} :
    deFieldsSeq env ((n, t) :: fs) (x :: xs) = .ok (ds, rest) ↔
      ∃ d ds', de env t x = .ok d ∧ deFieldsSeq env fs xs = .ok (ds', rest) ∧ ds = (n, d) :: ds' := by
  simp only [deFieldsSeq]
  cases de env t x with
  | error e => simp
  | ok d =>
    cases deFieldsSeq env fs xs with
    | error e => simp
    | ok p =>
      constructor
      · rintro ⟨⟩; exact ⟨d, _, rfl, rfl, rfl⟩
      · rintro ⟨_, _, ⟨⟩, ⟨⟩, rfl⟩; rfl

theorem seqDone_ok {α : Type} {r : Except DeErr (α × List JValue)} {mk : α → SData} {d : SData} :
    seqDone r mk = .ok d ↔ ∃ a, r = .ok (a, []) ∧ d = mk a := by
  rcases r with e | ⟨a, _ | _⟩ <;> simp [seqDone, eq_comm]

theorem de_opt (env : FEnv) (t : DTy) {v : JValue} (h : v ≠ .null) :
    de env (.opt t) v = (de env t v).map .some := by
  cases v with
  | null => exact absurd rfl h
  | _ => simp only [de]; cases de env t _ <;> rfl

theorem de_newtype (env : FEnv) (t : DTy) (v : JValue) :
    de env (.newtype t) v = (de env t v).map .newtypeStruct := by
  simp only [de]; cases de env t v <;> rfl

theorem de_seq_array (env : FEnv) (t : DTy) (xs : List JValue) :
    de env (.seq t) (.array xs) = (mapE (de env t) xs).map .seq := by
  simp only [de]; cases mapE (de env t) xs <;> rfl

/-- serde-derive's `visit_map` for a struct or a struct variant (`de` and `deVariant` write it out
    once each): fill the slots, close them, wrap the fields with `mk` -/
def structVisit (env : FEnv) (fs : List (List Char × DTy)) (es : List (List Char × JValue))
    (mk : List (List Char × SData) → SData) : Except DeErr SData :=
  (fillSlots (deField env fs 0) es (fs.map fun _ => none)).bind fun slots =>
    (closeSlots fs slots).map mk

theorem de_struct_object (env : FEnv) (fs : List (List Char × DTy)) (es : List (List Char × JValue)) :
    de env (.struct fs) (.object es) = structVisit env fs es .struct := by
  simp only [de, structVisit]
  cases fillSlots (deField env fs 0) es (fs.map fun _ => none) with
  | error e => rfl
  | ok slots => simp only [Except.bind]; cases closeSlots fs slots <;> rfl

/-- the variant named `k` is found: a newtype variant reads its payload, a struct variant runs the
    struct visitor on it -/
theorem deVariant_newtype_hit (env : FEnv) {n k : List Char} (hk : (n == k) = true) (t : DTy)
    (vs : List (List Char × DTy)) (x : JValue) :
    deVariant env ((n, .newtype t) :: vs) k (some x) = (de env t x).map (.newtypeVariant n) := by
  simp only [deVariant, hk, ↓reduceIte]; cases de env t x <;> rfl

theorem deVariant_struct_hit (env : FEnv) {n k : List Char} (hk : (n == k) = true)
    (fs vs : List (List Char × DTy)) (es : List (List Char × JValue)) :
    deVariant env ((n, .struct fs) :: vs) k (some (.object es)) =
      structVisit env fs es (.structVariant n) := by
  simp only [deVariant, hk, ↓reduceIte, structVisit]
  cases fillSlots (deField env fs 0) es (fs.map fun _ => none) with
  | error e => rfl
  | ok slots => simp only [Except.bind]; cases closeSlots fs slots <;> rfl

theorem Except.map_ok_of {ε α β : Type} {r r' : Except ε α} {g : α → β} {b : β}
    (H : ∀ x, r = .ok x → r' = .ok x) (h : r.map g = .ok b) : r'.map g = .ok b := by
  cases r with
  | error e => cases h
  | ok x => rwa [H x rfl]

theorem Except.bind_ok_of {ε α β : Type} {r r' : Except ε α} {k : α → Except ε β} {b : β}
    (H : ∀ x, r = .ok x → r' = .ok x) (h : r.bind k = .ok b) : r'.bind k = .ok b := by
  cases r with
  | error e => cases h
  | ok x => rwa [H x rfl]

theorem deVariant_skip (env : FEnv) (n : List Char) (p : DTy) (vs : List (List Char × DTy))
    (k : List Char) (payload : Option JValue) (h : (n == k) = false) :
    deVariant env ((n, p) :: vs) k payload = deVariant env vs k payload := by
  cases p <;> simp only [deVariant, h, Bool.false_eq_true, ↓reduceIte]

theorem deField_cons (env : FEnv) (n : List Char) (t : DTy) (fs : List (List Char × DTy)) (i : Nat)
    (k : List Char) (x : JValue) :
    deField env ((n, t) :: fs) i k x =
      if n == k then some (i, de env t x) else deField env fs (i + 1) k x := rfl

variable {look : List Char → JValue → Option (Nat × Except DeErr SData)} {k : List Char} {x : JValue}
  {es : List (List Char × JValue)} {s z : List (Option SData)}

theorem fillSlots_cons_none (h : look k x = none) :
    fillSlots look ((k, x) :: es) s = fillSlots look es s := by
  simp only [fillSlots, h]

/-- a round of the `visit_map` loop whose key names field `i` goes on exactly when the slot is free
    and the value deserializes -/
theorem fillSlots_cons_some {i : Nat} {r : Except DeErr SData} (h : look k x = some (i, r)) :
    fillSlots look ((k, x) :: es) s = .ok z ↔
      (∀ d', s[i]? ≠ some (some d')) ∧ ∃ d, r = .ok d ∧ fillSlots look es (s.set i (some d)) = .ok z := by
  simp only [fillSlots, h]
  split
  · rename_i hs; simp [hs]
  · rename_i hs
    cases r with
    | error e => simp
    | ok d => simpa using fun _ => hs

end JsonVerif
