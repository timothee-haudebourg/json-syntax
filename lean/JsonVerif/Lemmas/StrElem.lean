import JsonVerif.Spec.Grammar
/-!
# One iteration of the string scanner, characterised once

`strStep` first READS an element of the input (`Reads w e`: a closing quote, one character written
raw or as a two-character escape, or one `\uXXXX` code unit) or gets STUCK after a proper prefix `w`
of an element (`Stuck w t`: the first character of `t`, or the end of the input, cannot continue it),
and only then consults the options and the pending high surrogate (`onElem`, a table that never looks
at the input). `strStep_reads`, `strStep_stuck` and `scan_total` say so (bundled: `strStep_cases`);
every other fact about one iteration follows from them without unfolding the scanner again.
-/
namespace JsonVerif

inductive Elem
  | quote
  /-- a character of the string, written raw or as a two-character escape -/
  | chr (c : Char)
  | unit (cp : Nat)

/-- `w` spells the element `e` -/
inductive Reads : List Char → Elem → Prop
  | quote : Reads ['"'] .quote
  | raw (c : Char) : c ≠ '"' → c ≠ '\\' → isControl c = false → Reads [c] (.chr c)
  | esc (e ch : Char) : e ≠ 'u' → esc2 e = some ch → Reads ['\\', e] (.chr ch)
  | u (a b c d : Char) (cp : Nat) : hexCp a b c d = some cp → Reads ['\\', 'u', a, b, c, d] (.unit cp)

/-- after `w`, neither the first character of `t` nor (if `t = []`) the end of the input continues
    an element -/
inductive Stuck : List Char → List Char → Prop
  | start (t : List Char) : (∀ c ∈ t.head?, c ≠ '"' ∧ c ≠ '\\' ∧ isControl c = true) → Stuck [] t
  | esc (t : List Char) : (∀ e ∈ t.head?, e ≠ 'u' ∧ esc2 e = none) → Stuck ['\\'] t
  | hex (ds t : List Char) : ds.length < 4 → (∀ c ∈ ds, hexVal c ≠ none) →
      (∀ c ∈ t.head?, hexVal c = none) → Stuck ('\\' :: 'u' :: ds) t

/-- the error of an iteration that is stuck before `t`, at offset `p` -/
def stopErr (bad : Bool) (p : Nat) : List Char → PErr
  | [] => eofErrAt bad p
  | c :: _ => .unexpected p (some c)

/-- characters appended and the new pending high surrogate (`fin`: the string ends here), or an error -/
inductive Act
  | out (cs : List Char) (hi : Option (Nat × Nat)) (fin : Bool)
  | err (e : PErr)

def Act.pre (pre : List Char) : Act → Act
  | .out cs hi fin => .out (pre ++ cs) hi fin
  | .err e => .err e

/-- as a step result: `r`, `p` the input and offset handed on, `q` the offset of the element -/
def Act.run (acc r : List Char) (p q : Nat) : Act → StrStep
  | .out cs hi false => .more (acc ++ cs) hi r p
  | .out cs _ true => .done (acc ++ cs) r p q
  | .err e => .err e

theorem Act.run_pre (x acc r : List Char) (p q : Nat) (act : Act) :
    (act.pre x).run acc r p q = act.run (acc ++ x) r p q := by
  cases act with
  | err e => rfl
  | out cs hi fin => cases fin <;> simp only [Act.pre, Act.run, List.append_assoc]

/-- nothing pending; the element starts at `q` and ends at `p`. Offsets recorded for a `\\uXXXX` are
    `q + 1`: Rust keeps the offset of the `u` (`(p, Some('u'))`), one byte after the backslash. -/
def onElem0 (o : ParseOptions) (q p : Nat) : Elem → Act
  | .quote => .out [] none true
  | .chr c => .out [c] none false
  | .unit cp =>
    if isHigh cp then .out [] (some (q + 1, cp)) false
    else match ofCp cp with
      | some ch => .out [ch] none false
      | none => if o.inval then .out [fffd] none false else .err (.invalidCodePoint (q + 1) p cp)

/-- a pending high surrogate is completed by a low surrogate unit; in front of any other element it is
    replaced by U+FFFD under `trunc`, else it is an error -/
def onElem (o : ParseOptions) (high : Option (Nat × Nat)) (q p : Nat) (e : Elem) : Act :=
  match high with
  | none => onElem0 o q p e
  | some (ph, h) =>
    match e with
    | .unit cp =>
      if isLow cp then
        match ofCp (pairCp h cp) with
        | some ch => .out [ch] none false
        | none => if o.inval then .out [fffd] none false else .err (.invalidCodePoint ph p (pairCp h cp))
      else if o.trunc then (onElem0 o q p e).pre [fffd] else .err (.invalidLow (q + 1) p h cp)
    | _ => if o.trunc then (onElem0 o q p e).pre [fffd] else .err (.missingLow ph q h)

theorem hexDigitAt_of {bad : Bool} {c : Char} {h : Nat} (r : List Char) (pos : Nat)
    (hv : hexVal c = some h) : hexDigitAt bad (c :: r) pos = .ok (h, r, pos + c.utf8Size) := by
  simp [hexDigitAt, hv]

theorem hexDigitAt_stuck {bad : Bool} {t : List Char} (pos : Nat) (ht : ∀ c ∈ t.head?, hexVal c = none) :
    hexDigitAt bad t pos = .error (stopErr bad pos t) := by
  cases t with
  | nil => rfl
  | cons c r => simp [hexDigitAt, ht c rfl, stopErr]

theorem hex4_of {bad : Bool} {a b c d : Char} {cp : Nat} (r : List Char) (pos : Nat)
    (h : hexCp a b c d = some cp) :
    hex4 bad (a :: b :: c :: d :: r) pos = .ok (cp, r, pos + utf8Len [a, b, c, d]) := by
  unfold hexCp at h
  split at h
  · rename_i x3 x2 x1 x0 h3 h2 h1 h0
    cases h
    simp [hex4, hexDigitAt_of _ _ h3, hexDigitAt_of _ _ h2, hexDigitAt_of _ _ h1, hexDigitAt_of _ _ h0,
      Nat.add_assoc]
  · cases h

theorem hex4_stuck {bad : Bool} {ds t : List Char} (pos : Nat) (hn : ds.length < 4)
    (hds : ∀ c ∈ ds, hexVal c ≠ none) (ht : ∀ c ∈ t.head?, hexVal c = none) :
    hex4 bad (ds ++ t) pos = .error (stopErr bad (pos + utf8Len ds) t) := by
  have dig : ∀ c ∈ ds, ∃ v, hexVal c = some v := fun c hc => Option.ne_none_iff_exists'.mp (hds c hc)
  rcases ds with _ | ⟨a, _ | ⟨b, _ | ⟨c, _ | ⟨_, _⟩⟩⟩⟩
  · simp only [hex4, List.nil_append, hexDigitAt_stuck _ ht, utf8Len_nil, Nat.add_zero]
  · obtain ⟨_, ha⟩ := dig a (by simp)
    simp only [hex4, List.cons_append, List.nil_append, hexDigitAt_of _ _ ha, hexDigitAt_stuck _ ht,
      utf8Len_cons, utf8Len_nil, Nat.add_zero]
  · obtain ⟨_, ha⟩ := dig a (by simp)
    obtain ⟨_, hb⟩ := dig b (by simp)
    simp only [hex4, List.cons_append, List.nil_append, hexDigitAt_of _ _ ha, hexDigitAt_of _ _ hb,
      hexDigitAt_stuck _ ht, utf8Len_cons, utf8Len_nil, Nat.add_zero, Nat.add_assoc]
  · obtain ⟨_, ha⟩ := dig a (by simp)
    obtain ⟨_, hb⟩ := dig b (by simp)
    obtain ⟨_, hc⟩ := dig c (by simp)
    simp only [hex4, List.cons_append, List.nil_append, hexDigitAt_of _ _ ha, hexDigitAt_of _ _ hb,
      hexDigitAt_of _ _ hc, hexDigitAt_stuck _ ht, utf8Len_cons, utf8Len_nil, Nat.add_zero, Nat.add_assoc]
  · simp only [List.length_cons] at hn; omega

theorem hex_prefix : ∀ (n : Nat) (l : List Char), ∃ ds t, l = ds ++ t ∧ (∀ c ∈ ds, hexVal c ≠ none) ∧
    (ds.length = n ∨ (ds.length < n ∧ ∀ c ∈ t.head?, hexVal c = none))
  | 0, l => ⟨[], l, rfl, by simp, .inl rfl⟩
  | n + 1, [] => ⟨[], [], rfl, by simp, .inr ⟨by simp, by simp⟩⟩
  | n + 1, c :: l => by
    cases hc : hexVal c with
    | none => exact ⟨[], c :: l, rfl, by simp, .inr ⟨by simp, by simpa using hc⟩⟩
    | some v =>
      obtain ⟨ds, t, rfl, hds, hn⟩ := hex_prefix n l
      refine ⟨c :: ds, t, rfl, ?_, by simpa using hn⟩
      intro x hx
      rcases List.mem_cons.mp hx with rfl | hx
      · simp [hc]
      · exact hds x hx

theorem hexCp_total {ds : List Char} (hn : ds.length = 4) (h : ∀ x ∈ ds, hexVal x ≠ none) :
    ∃ a b c d cp, ds = [a, b, c, d] ∧ hexCp a b c d = some cp := by
  rcases ds with _ | ⟨a, _ | ⟨b, _ | ⟨c, _ | ⟨d, _ | ⟨_, _⟩⟩⟩⟩⟩
  case cons.cons.cons.cons.nil =>
    obtain ⟨x3, ha⟩ := Option.ne_none_iff_exists'.mp (h a (by simp))
    obtain ⟨x2, hb⟩ := Option.ne_none_iff_exists'.mp (h b (by simp))
    obtain ⟨x1, hc⟩ := Option.ne_none_iff_exists'.mp (h c (by simp))
    obtain ⟨x0, hd⟩ := Option.ne_none_iff_exists'.mp (h d (by simp))
    exact ⟨a, b, c, d, x3 * 4096 + x2 * 256 + x1 * 16 + x0, rfl, by simp only [hexCp, ha, hb, hc, hd]⟩
  all_goals cases hn

theorem scan_total (l : List Char) : (∃ w r e, l = w ++ r ∧ Reads w e) ∨ (∃ w t, l = w ++ t ∧ Stuck w t) := by
  cases l with
  | nil => exact .inr ⟨[], [], rfl, .start _ (by simp)⟩
  | cons c r =>
    by_cases hq : c = '"'
    · exact .inl ⟨[c], r, .quote, rfl, hq ▸ .quote⟩
    by_cases hb : c = '\\'
    · subst hb
      cases r with
      | nil => exact .inr ⟨['\\'], [], rfl, .esc _ (by simp)⟩
      | cons e r2 =>
        by_cases hu : e = 'u'
        · subst hu
          obtain ⟨ds, t, rfl, hds, hn⟩ := hex_prefix 4 r2
          rcases hn with hn | ⟨hn, ht⟩
          · obtain ⟨a, b, c, d, cp, rfl, hcp⟩ := hexCp_total hn hds
            exact .inl ⟨['\\', 'u', a, b, c, d], t, .unit cp, rfl, .u a b c d cp hcp⟩
          · exact .inr ⟨'\\' :: 'u' :: ds, t, rfl, .hex ds t hn hds ht⟩
        · cases he : esc2 e with
          | some ch => exact .inl ⟨['\\', e], r2, .chr ch, rfl, .esc e ch hu he⟩
          | none => exact .inr ⟨['\\'], e :: r2, rfl, .esc _ (by simpa using ⟨hu, he⟩)⟩
    · cases hc : isControl c with
      | true => exact .inr ⟨[], c :: r, rfl, .start _ (by simpa using ⟨hq, hb, hc⟩)⟩
      | false => exact .inl ⟨[c], r, .chr c, rfl, .raw c hq hb hc⟩

theorem flushChar_eq (o : ParseOptions) (acc : List Char) (high : Option (Nat × Nat)) (c : Char)
    (r : List Char) (p q : Nat) :
    flushChar o acc high c r p q = (onElem o high q p (.chr c)).run acc r p q := by
  cases high with
  | none => rfl
  | some ph => cases ht : o.trunc <;> simp [flushChar, onElem, onElem0, Act.pre, Act.run, ht]

theorem noHigh_eq (o : ParseOptions) (acc : List Char) (q cp : Nat) (r : List Char) (p : Nat) :
    noHigh o acc (q + 1) cp r p = (onElem0 o q p (.unit cp)).run acc r p q := by
  unfold noHigh
  by_cases hh : isHigh cp = true
  · simp [onElem0, hh, Act.run]
  · cases hc : ofCp cp with
    | some ch => simp [onElem0, hh, hc, Act.run]
    | none => cases hi : o.inval <;> simp [onElem0, hh, hc, hi, Act.run]

theorem strStep_reads {w : List Char} {e : Elem} (h : Reads w e) (o : ParseOptions) (bad : Bool)
    (acc : List Char) (high : Option (Nat × Nat)) (r : List Char) (pos : Nat) :
    strStep o bad acc high (w ++ r) pos =
      (onElem o high pos (pos + utf8Len w) e).run acc r (pos + utf8Len w) pos := by
  have e1 : ('\\' : Char).utf8Size = 1 := by decide
  have e2 : ('u' : Char).utf8Size = 1 := by decide
  cases h with
  | quote =>
    cases high with
    | none => simp [strStep, onElem, onElem0, Act.run]
    | some ph => cases ht : o.trunc <;> simp [strStep, onElem, onElem0, Act.pre, Act.run, ht]
  | raw c h1 h2 h3 => simp [strStep, h1, h2, h3, flushChar_eq]
  | esc e ch h1 h2 => simp [strStep, strEsc, h1, h2, flushChar_eq, Nat.add_assoc]
  | u a b c d cp hcp =>
    simp only [List.cons_append, List.nil_append, strStep, strEsc, strEscU, e1, e2, hex4_of _ _ hcp,
      Nat.add_assoc, utf8Len_cons, utf8Len_nil, Nat.add_zero, Char.reduceEq, ↓reduceIte]
    cases high with
    | none => exact noHigh_eq o acc pos cp r _
    | some ph =>
      obtain ⟨_, h⟩ := ph
      by_cases hl : isLow cp = true
      · cases hc : ofCp (pairCp h cp) with
        | some ch => simp [onElem, hl, hc, Act.run]
        | none => cases hi : o.inval <;> simp [onElem, hl, hc, hi, Act.run]
      · cases ht : o.trunc with
        | false => simp [onElem, hl, ht, Act.run]
        | true =>
          simp only [onElem, hl, ht, Bool.false_eq_true, ↓reduceIte]
          rw [noHigh_eq, Act.run_pre]

theorem strStep_stuck {w t : List Char} (h : Stuck w t) (o : ParseOptions) (bad : Bool)
    (acc : List Char) (high : Option (Nat × Nat)) (pos : Nat) :
    strStep o bad acc high (w ++ t) pos = .err (stopErr bad (pos + utf8Len w) t) := by
  cases h with
  | start _ ht =>
    cases t with
    | nil => rfl
    | cons c r => obtain ⟨h1, h2, h3⟩ := ht c rfl; simp [strStep, h1, h2, h3, stopErr]
  | esc _ ht =>
    cases t with
    | nil => simp [strStep, strEsc, stopErr]
    | cons c r => obtain ⟨h1, h2⟩ := ht c rfl; simp [strStep, strEsc, h1, h2, stopErr]
  | hex ds _ hn hds ht =>
    simp [strStep, strEsc, strEscU, hex4_stuck _ hn hds ht, Nat.add_assoc]

theorem strStep_out {o : ParseOptions} {high : Option (Nat × Nat)} {w : List Char} {e : Elem} {pos : Nat}
    {cs : List Char} {hi : Option (Nat × Nat)} (hr : Reads w e)
    (he : onElem o high pos (pos + utf8Len w) e = .out cs hi false) (bad : Bool) (acc r : List Char) :
    strStep o bad acc high (w ++ r) pos = .more (acc ++ cs) hi r (pos + utf8Len w) := by
  rw [strStep_reads hr, he]; rfl

theorem strStep_cases (o : ParseOptions) (bad : Bool) (acc : List Char) (high : Option (Nat × Nat))
    (l : List Char) (pos : Nat) :
    (∃ w r e, Reads w e ∧ l = w ++ r ∧ strStep o bad acc high l pos =
      (onElem o high pos (pos + utf8Len w) e).run acc r (pos + utf8Len w) pos) ∨
    (∃ w t, Stuck w t ∧ l = w ++ t ∧
      strStep o bad acc high l pos = .err (stopErr bad (pos + utf8Len w) t)) := by
  rcases scan_total l with ⟨w, r, e, rfl, h⟩ | ⟨w, t, rfl, h⟩
  · exact .inl ⟨w, r, e, h, rfl, strStep_reads h ..⟩
  · exact .inr ⟨w, t, h, rfl, strStep_stuck h ..⟩

theorem Act.run_eq_more {act : Act} {acc r : List Char} {p q : Nat} {a : List Char} {hi : Option (Nat × Nat)}
    {r' : List Char} {p' : Nat} (h : act.run acc r p q = .more a hi r' p') :
    ∃ cs, act = .out cs hi false ∧ a = acc ++ cs ∧ r' = r ∧ p' = p := by
  cases act with
  | err e => cases h
  | out cs hi' fin =>
    cases fin with
    | true => cases h
    | false => cases h; exact ⟨cs, rfl, rfl, rfl, rfl⟩

theorem Act.run_eq_done {act : Act} {acc r : List Char} {p q : Nat} {a r' : List Char} {p' q' : Nat}
    (h : act.run acc r p q = .done a r' p' q') :
    ∃ cs hi, act = .out cs hi true ∧ a = acc ++ cs ∧ r' = r ∧ p' = p ∧ q' = q := by
  cases act with
  | err e => cases h
  | out cs hi fin =>
    cases fin with
    | false => cases h
    | true => cases h; exact ⟨cs, hi, rfl, rfl, rfl, rfl, rfl⟩

theorem Act.run_eq_err {act : Act} {acc r : List Char} {p q : Nat} {x : PErr}
    (h : act.run acc r p q = .err x) : act = .err x := by
  cases act with
  | err e => cases h; rfl
  | out cs hi fin => cases fin <;> cases h

theorem Reads.ne_nil {w : List Char} {e : Elem} (h : Reads w e) : w ≠ [] := by cases h <;> simp

theorem strStep_more_inv {o : ParseOptions} {bad : Bool} {acc : List Char} {high : Option (Nat × Nat)}
    {l : List Char} {pos : Nat} {a : List Char} {hi : Option (Nat × Nat)} {r : List Char} {p : Nat}
    (h : strStep o bad acc high l pos = .more a hi r p) :
    ∃ w e cs, Reads w e ∧ l = w ++ r ∧ p = pos + utf8Len w ∧ onElem o high pos p e = .out cs hi false ∧
      a = acc ++ cs := by
  rcases strStep_cases o bad acc high l pos with ⟨w, _, e, hr, rfl, hs⟩ | ⟨w, _, _, rfl, hs⟩ <;> rw [hs] at h
  · obtain ⟨cs, h1, h2, rfl, rfl⟩ := Act.run_eq_more h
    exact ⟨w, e, cs, hr, rfl, rfl, h1, h2⟩
  · cases h

/-- the errors `onElem` can hand out, each with the condition under which it does -/
inductive ElemErr (o : ParseOptions) (high : Option (Nat × Nat)) (q p : Nat) : Elem → PErr → Prop
  | missingLow (ph hv : Nat) (e : Elem) : high = some (ph, hv) → o.trunc = false → (∀ cp, e ≠ .unit cp) →
      ElemErr o high q p e (.missingLow ph q hv)
  | invalidLow (ph hv cp : Nat) : high = some (ph, hv) → o.trunc = false → isLow cp = false →
      ElemErr o high q p (.unit cp) (.invalidLow (q + 1) p hv cp)
  /-- never arises when the pending `hv` is a high surrogate, as it always is: a high and a low surrogate
      combine to a scalar value (`ofCp_pair_some`) -/
  | invalidPair (ph hv cp : Nat) : high = some (ph, hv) → isLow cp = true → ofCp (pairCp hv cp) = none →
      o.inval = false → ElemErr o high q p (.unit cp) (.invalidCodePoint ph p (pairCp hv cp))
  | invalidUnit (cp : Nat) : o.inval = false → isHigh cp = false → ofCp cp = none →
      ElemErr o high q p (.unit cp) (.invalidCodePoint (q + 1) p cp)

/-- what the table hands out, read once: an error with its condition (`ElemErr`); `fin` only at the
    closing quote; a new pending high surrogate only from a high code unit, with the offset of its `u` -/
def ActSpec (o : ParseOptions) (high : Option (Nat × Nat)) (q p : Nat) (e : Elem) : Act → Prop
  | .err x => ElemErr o high q p e x
  | .out _ hi fin => (fin = true → e = .quote) ∧
      ∀ hp, hi = some hp → isHigh hp.2 = true ∧ e = .unit hp.2 ∧ hp.1 = q + 1

theorem ActSpec.pre {o : ParseOptions} {high : Option (Nat × Nat)} {q p : Nat} {e : Elem} {act : Act}
    (h : ActSpec o high q p e act) (x : List Char) : ActSpec o high q p e (act.pre x) := by
  cases act <;> exact h

theorem onElem0_spec (o : ParseOptions) (high : Option (Nat × Nat)) (q p : Nat) (e : Elem) :
    ActSpec o high q p e (onElem0 o q p e) := by
  cases e with
  | quote => exact ⟨fun _ => rfl, nofun⟩
  | chr c => exact ⟨nofun, nofun⟩
  | unit cp =>
    simp only [onElem0]
    by_cases hh : isHigh cp = true
    · rw [if_pos hh]; exact ⟨nofun, fun _ h => by cases h; exact ⟨hh, rfl, rfl⟩⟩
    rw [if_neg hh]
    cases hc : ofCp cp with
    | some ch => exact ⟨nofun, nofun⟩
    | none =>
      by_cases hi : o.inval = true
      · rw [if_pos hi]; exact ⟨nofun, nofun⟩
      · rw [if_neg hi]; exact .invalidUnit cp (by simpa using hi) (by simpa using hh) hc

theorem onElem_spec (o : ParseOptions) (high : Option (Nat × Nat)) (q p : Nat) (e : Elem) :
    ActSpec o high q p e (onElem o high q p e) := by
  cases high with
  | none => exact onElem0_spec o none q p e
  | some ph =>
    obtain ⟨ph, hv⟩ := ph
    have pending : ∀ e, (∀ cp, e ≠ .unit cp) → ActSpec o (some (ph, hv)) q p e
        (if o.trunc then (onElem0 o q p e).pre [fffd] else .err (.missingLow ph q hv)) := fun e he => by
      by_cases ht : o.trunc = true
      · rw [if_pos ht]; exact (onElem0_spec ..).pre _
      · rw [if_neg ht]; exact .missingLow ph hv e rfl (by simpa using ht) he
    cases e with
    | quote => exact pending _ nofun
    | chr c => exact pending _ nofun
    | unit cp =>
      simp only [onElem]
      by_cases hl : isLow cp = true
      · rw [if_pos hl]
        cases hc : ofCp (pairCp hv cp) with
        | some ch => exact ⟨nofun, nofun⟩
        | none =>
          by_cases hi : o.inval = true
          · rw [if_pos hi]; exact ⟨nofun, nofun⟩
          · rw [if_neg hi]; exact .invalidPair ph hv cp rfl hl hc (by simpa using hi)
      · rw [if_neg hl]
        by_cases ht : o.trunc = true
        · rw [if_pos ht]; exact (onElem0_spec ..).pre _
        · rw [if_neg ht]; exact .invalidLow ph hv cp rfl (by simpa using ht) (by simpa using hl)

/-- only the closing quote ends the string -/
theorem onElem_fin {o : ParseOptions} {high : Option (Nat × Nat)} {q p : Nat} {e : Elem} {cs : List Char}
    {hi : Option (Nat × Nat)} (h : onElem o high q p e = .out cs hi true) : e = .quote :=
  (h ▸ onElem_spec o high q p e : ActSpec o high q p e (.out cs hi true)).1 rfl

theorem onElem_err {o : ParseOptions} {high : Option (Nat × Nat)} {q p : Nat} {e : Elem} {x : PErr}
    (h : onElem o high q p e = .err x) : ElemErr o high q p e x :=
  (h ▸ onElem_spec o high q p e : ActSpec o high q p e (.err x))

/-- a new pending high surrogate comes from a high code unit, and from nothing else -/
theorem onElem_high {o : ParseOptions} {high : Option (Nat × Nat)} {q p : Nat} {e : Elem} {cs : List Char}
    {hp : Nat × Nat} {fin : Bool} (h : onElem o high q p e = .out cs (some hp) fin) :
    isHigh hp.2 = true ∧ e = .unit hp.2 ∧ hp.1 = q + 1 :=
  (h ▸ onElem_spec o high q p e : ActSpec o high q p e (.out cs (some hp) fin)).2 hp rfl

theorem strStep_done_inv {o : ParseOptions} {bad : Bool} {acc : List Char} {high : Option (Nat × Nat)}
    {l : List Char} {pos : Nat} {a r : List Char} {p q : Nat}
    (h : strStep o bad acc high l pos = .done a r p q) :
    l = '"' :: r ∧ p = pos + ('"' : Char).utf8Size ∧ q = pos ∧
      ∃ cs hi, onElem o high pos p .quote = .out cs hi true ∧ a = acc ++ cs := by
  rcases strStep_cases o bad acc high l pos with ⟨_, _, _, hr, rfl, hs⟩ | ⟨_, _, _, rfl, hs⟩ <;> rw [hs] at h
  · obtain ⟨cs, hi, h1, h2, rfl, rfl, rfl⟩ := Act.run_eq_done h
    cases onElem_fin h1
    cases hr
    exact ⟨rfl, by simp, rfl, cs, hi, by simpa using h1, h2⟩
  · cases h

theorem onElem_ne_unexpected {o : ParseOptions} {high : Option (Nat × Nat)} {q p : Nat} {e : Elem}
    {x : Nat} {c : Option Char} : onElem o high q p e ≠ .err (.unexpected x c) := by
  intro h; cases onElem_err h

theorem stopErr_unexpected {bad : Bool} {p : Nat} {t : List Char} {x : Nat} {c : Option Char}
    (h : stopErr bad p t = .unexpected x c) : x = p ∧ c = t.head? := by
  cases t with
  | nil => exact eofErrAt_unexpected h
  | cons d r => cases h; exact ⟨rfl, rfl⟩

theorem strStep_unexpected_inv {o : ParseOptions} {bad : Bool} {acc : List Char}
    {high : Option (Nat × Nat)} {l : List Char} {pos x : Nat} {c : Option Char}
    (h : strStep o bad acc high l pos = .err (.unexpected x c)) :
    ∃ w t, Stuck w t ∧ l = w ++ t ∧ x = pos + utf8Len w ∧ c = t.head? ∧
      stopErr bad x t = .unexpected x c := by
  rcases strStep_cases o bad acc high l pos with ⟨_, _, _, _, rfl, hs⟩ | ⟨w, t, hst, rfl, hs⟩ <;> rw [hs] at h
  · exact absurd (Act.run_eq_err h) onElem_ne_unexpected
  · injection h with h
    obtain ⟨rfl, rfl⟩ := stopErr_unexpected h
    exact ⟨w, t, hst, rfl, rfl, rfl, h⟩

end JsonVerif
