import JsonVerif.Model.ParseLex
/-!
# Lexers as programs: the type, the primitives, and how to read a run backwards

`Lex α` and the few combinators from which every function of the lexical layer is put together.
`X_ok` / `X_error` say what a successful / a failing run of `X` consists of, for those combinators of
which some user reads a run backwards; the others (`peek`, `reserve`, `unexpectedHere`, `opener`)
unfold. Neither of the two scanning loops is mentioned here.
-/
namespace JsonVerif

abbrev Lex (α : Type) := PS → Except PErr (α × PS)

namespace Lex

def pure (a : α) : Lex α := fun s => .ok (a, s)

def bind (m : Lex α) (k : α → Lex β) : Lex β := fun s =>
  match m s with
  | .error e => .error e
  | .ok (a, s') => k a s'

def peekC (k : Char → Lex α) : Lex α := fun s =>
  match s.rest with
  | [] => .error s.eofErr
  | c :: _ => k c s

/-- branch on the next character, if there is one. Every program looks ahead only after `skipWs`, so the
    failing `peek_char()?` of Rust does not arise (see `skipWs`). -/
def peek (k : Option Char → Lex α) : Lex α := fun s => k s.rest.head? s

def unexpectedHere : Lex α := fun s => .error (.unexpected s.pos s.rest.head?)

/-- consume the character just looked at. Every program runs it after `peekC`, or after `peek` has
    shown a character: the `[]` arm is never reached. -/
def next : Lex Unit := fun s =>
  match s.rest with
  | [] => .ok ((), s)
  | c :: r => .ok ((), s.adv c r)

def reserve : Lex Nat := fun s => .ok (s.cm.size, s.reserve)

def lift (f : PS → Except PErr PS) : Lex Unit := fun s =>
  match f s with
  | .error e => .error e
  | .ok s' => .ok ((), s')

/-- adapts the result type of `lexKeyColon` -/
def ofTriple (f : PS → Except PErr (α × β × PS)) : Lex (α × β) := fun s =>
  match f s with
  | .error e => .error e
  | .ok (a, b, s') => .ok ((a, b), s')

def raw (f : Bool → List Char → Nat → Except PErr (α × List Char × Nat)) : Lex α := fun s =>
  match f s.bad s.rest s.pos with
  | .error e => .error e
  | .ok (a, r, p) => .ok (a, { s with rest := r, pos := p })

theorem bind_ok {m : Lex α} {k : α → Lex β} {s : PS} {r : β × PS} :
    bind m k s = .ok r ↔ ∃ a s1, m s = .ok (a, s1) ∧ k a s1 = .ok r := by
  unfold bind
  cases m s with
  | error e => exact ⟨fun h => (nomatch h), fun ⟨_, _, h, _⟩ => (nomatch h)⟩
  | ok p => exact ⟨fun h => ⟨p.1, p.2, rfl, h⟩, fun ⟨_, _, h, hk⟩ => by cases h; exact hk⟩

theorem lift_ok {f : PS → Except PErr PS} {s s' : PS} : lift f s = .ok ((), s') ↔ f s = .ok s' := by
  unfold lift
  cases f s with
  | error e => exact ⟨fun h => (nomatch h), fun h => (nomatch h)⟩
  | ok s1 => exact ⟨fun h => by cases h; rfl, fun h => by cases h; rfl⟩

theorem pure_ok {a : α} {s : PS} {r : α × PS} : pure a s = .ok r ↔ r = (a, s) :=
  ⟨fun h => by cases h; rfl, fun h => by rw [h]; rfl⟩

theorem peekC_ok {k : Char → Lex α} {s : PS} {r : α × PS} :
    peekC k s = .ok r ↔ ∃ c x, s.rest = c :: x ∧ k c s = .ok r := by
  unfold peekC
  cases hr : s.rest with
  | nil => exact ⟨fun h => (nomatch h), fun ⟨_, _, h, _⟩ => (nomatch h)⟩
  | cons c x => exact ⟨fun h => ⟨c, x, rfl, h⟩, fun ⟨_, _, h, hk⟩ => by cases h; exact hk⟩

theorem ofTriple_ok {f : PS → Except PErr (α × β × PS)} {s s' : PS} {a : α} {b : β} :
    ofTriple f s = .ok ((a, b), s') ↔ f s = .ok (a, b, s') := by
  unfold ofTriple
  cases f s with
  | error e => exact ⟨fun h => (nomatch h), fun h => (nomatch h)⟩
  | ok p => exact ⟨fun h => by cases h; rfl, fun h => by cases h; rfl⟩

theorem raw_ok {f : Bool → List Char → Nat → Except PErr (α × List Char × Nat)} {s : PS} {a : α} {s' : PS} :
    raw f s = .ok (a, s') ↔ ∃ r p, f s.bad s.rest s.pos = .ok (a, r, p) ∧ s' = { s with rest := r, pos := p } := by
  unfold raw
  cases f s.bad s.rest s.pos with
  | error e => exact ⟨fun h => (nomatch h), fun ⟨_, _, h, _⟩ => (nomatch h)⟩
  | ok v => exact ⟨fun h => by cases h; exact ⟨_, _, rfl, rfl⟩, fun ⟨_, _, h, hs⟩ => by cases h; rw [hs]⟩

theorem next_ok {s : PS} {u : Unit} {s' : PS} {c : Char} {r : List Char} (hr : s.rest = c :: r) :
    next s = .ok (u, s') ↔ s' = s.adv c r := by
  simp only [next, hr, Except.ok.injEq, Prod.mk.injEq, true_and]; exact eq_comm

theorem next_ne_error {s : PS} {e : PErr} : next s ≠ .error e := fun h => by
  unfold next at h
  split at h <;> cases h

theorem bind_error {m : Lex α} {k : α → Lex β} {s : PS} {e : PErr} :
    bind m k s = .error e ↔ m s = .error e ∨ ∃ a s1, m s = .ok (a, s1) ∧ k a s1 = .error e := by
  unfold bind
  cases m s with
  | error e' =>
    exact ⟨fun h => .inl (by cases h; rfl),
      fun h => h.elim (fun h => by cases h; rfl) fun ⟨_, _, h, _⟩ => nomatch h⟩
  | ok p => exact ⟨fun h => .inr ⟨p.1, p.2, rfl, h⟩,
      fun h => h.elim (fun h => nomatch h) fun ⟨_, _, h, hk⟩ => by cases h; exact hk⟩

theorem bind_pure_error {m : Lex α} {f : α → β} {s : PS} {e : PErr}
    (h : bind m (fun a => pure (f a)) s = .error e) : m s = .error e :=
  (bind_error.1 h).elim id fun ⟨_, _, _, h⟩ => nomatch h

theorem lift_error {f : PS → Except PErr PS} {s : PS} {e : PErr} : lift f s = .error e ↔ f s = .error e := by
  unfold lift
  cases f s with
  | error e' => exact ⟨fun h => by cases h; rfl, fun h => by cases h; rfl⟩
  | ok s1 => exact ⟨fun h => (nomatch h), fun h => (nomatch h)⟩

theorem ofTriple_error {f : PS → Except PErr (α × β × PS)} {s : PS} {e : PErr} :
    ofTriple f s = .error e ↔ f s = .error e := by
  unfold ofTriple
  cases f s with
  | error e' => exact ⟨fun h => by cases h; rfl, fun h => by cases h; rfl⟩
  | ok p => exact ⟨fun h => (nomatch h), fun h => (nomatch h)⟩

theorem raw_error {f : Bool → List Char → Nat → Except PErr (α × List Char × Nat)} {s : PS} {e : PErr} :
    raw f s = .error e ↔ f s.bad s.rest s.pos = .error e := by
  unfold raw
  cases f s.bad s.rest s.pos with
  | error e' => exact ⟨fun h => by cases h; rfl, fun h => by cases h; rfl⟩
  | ok v => exact ⟨fun h => (nomatch h), fun h => (nomatch h)⟩

theorem peekC_error {k : Char → Lex α} {s : PS} {e : PErr} :
    peekC k s = .error e ↔ (s.rest = [] ∧ e = s.eofErr) ∨ ∃ c x, s.rest = c :: x ∧ k c s = .error e := by
  unfold peekC
  cases hr : s.rest with
  | nil => exact ⟨fun h => by cases h; exact .inl ⟨rfl, rfl⟩,
      fun h => h.elim (fun h => by rw [h.2]) fun ⟨_, _, h, _⟩ => (nomatch h)⟩
  | cons c x => exact ⟨fun h => .inr ⟨c, x, rfl, h⟩,
      fun h => h.elim (fun h => nomatch h.1) fun ⟨_, _, h, hk⟩ => by cases h; exact hk⟩

theorem peekC_cons {k : Char → Lex α} {s : PS} {c : Char} {x : List Char} (h : s.rest = c :: x) :
    peekC k s = k c s := by
  simp only [peekC, h]

theorem ite_eq {p : Prop} [Decidable p] {a b : Lex α} {s : PS} {r : Except PErr (α × PS)} :
    (if p then a else b) s = r ↔ (p ∧ a s = r) ∨ (¬p ∧ b s = r) := by
  by_cases h : p
  · rw [if_pos h]; exact ⟨fun x => .inl ⟨h, x⟩, fun x => x.elim (·.2) (absurd h ·.1)⟩
  · rw [if_neg h]; exact ⟨fun x => .inr ⟨h, x⟩, fun x => x.elim (absurd ·.1 h) (·.2)⟩

theorem bind_reserve {k : Nat → Lex α} {s : PS} : bind reserve k s = k s.cm.size s.reserve := rfl

theorem bind_next {k : Unit → Lex α} {s : PS} {c : Char} {x : List Char} (h : s.rest = c :: x) :
    bind next k s = k () (s.adv c x) := by
  simp only [bind, next, h]

def close (i : Nat) (a : α) : Lex α := bind (lift (·.endFragment i)) fun _ => pure a

def literal (cs : List Char) (i : Nat) (a : α) : Lex α := bind (lift (expectChars cs)) fun _ => close i a

def closer (i : Nat) (a : α) : Lex α := bind next fun _ => close i a

/-- what `startArray` and `startObject` share: open a fragment at the bracket `c`; if after the
    whitespace the bracket `d` closes it again the result is the empty container `v`, else go on with `k` -/
def opener (c d : Char) (v : α) (k : Nat → Lex α) : Lex α :=
  bind reserve fun i => bind (lift (expectChar c)) fun _ => bind (lift skipWs) fun _ => peek fun d? =>
    if d? = some d then closer i v else k i

theorem close_ok {i : Nat} {a : α} {s : PS} {r : α} {s' : PS} :
    close i a s = .ok (r, s') ↔ r = a ∧ s.endFragment i = .ok s' := by
  unfold close
  rw [bind_ok]
  exact ⟨fun ⟨_, s1, h1, h2⟩ => by cases pure_ok.1 h2; exact ⟨rfl, lift_ok.1 h1⟩,
    fun ⟨h1, h2⟩ => ⟨(), s', lift_ok.2 h2, by rw [h1]; rfl⟩⟩

theorem close_error {i : Nat} {a : α} {s : PS} {e : PErr} :
    close i a s = .error e ↔ s.endFragment i = .error e :=
  ⟨fun h => lift_error.1 (bind_pure_error h), fun h => bind_error.2 (.inl (lift_error.2 h))⟩

theorem literal_ok {cs : List Char} {i : Nat} {a : α} {s : PS} {r : α} {s' : PS} :
    literal cs i a s = .ok (r, s') ↔
      r = a ∧ ∃ s1, expectChars cs s = .ok s1 ∧ s1.endFragment i = .ok s' := by
  unfold literal
  rw [bind_ok]
  exact ⟨fun ⟨_, s1, h1, h2⟩ => ⟨(close_ok.1 h2).1, s1, lift_ok.1 h1, (close_ok.1 h2).2⟩,
    fun ⟨hr, s1, h1, h2⟩ => ⟨(), s1, lift_ok.2 h1, close_ok.2 ⟨hr, h2⟩⟩⟩

theorem literal_error {cs : List Char} {i : Nat} {a : α} {s : PS} {e : PErr} :
    literal cs i a s = .error e ↔ expectChars cs s = .error e ∨
      ∃ s1, expectChars cs s = .ok s1 ∧ s1.endFragment i = .error e := by
  unfold literal
  rw [bind_error, lift_error]
  exact or_congr .rfl ⟨fun ⟨_, s1, h1, h2⟩ => ⟨s1, lift_ok.1 h1, close_error.1 h2⟩,
    fun ⟨s1, h1, h2⟩ => ⟨(), s1, lift_ok.2 h1, close_error.2 h2⟩⟩

theorem closer_ok {i : Nat} {a : α} {s : PS} {c : Char} {x : List Char} (hr : s.rest = c :: x)
    {r : α} {s' : PS} : closer i a s = .ok (r, s') ↔ r = a ∧ (s.adv c x).endFragment i = .ok s' := by
  unfold closer
  rw [bind_next hr]
  exact close_ok

end Lex
end JsonVerif
