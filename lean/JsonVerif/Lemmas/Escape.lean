import JsonVerif.Model.Print
/-!
# The cases of `escapeChar` / `escapeWidth`, stated once

`string_literal` and `printed_string_size` match on the same three classes of characters; what is
proved class by class (the lengths agree, the escape is read back by the grammar) goes through
`escape_cases`.
-/
namespace JsonVerif

/-- The two-character escapes of `string_literal`: the character, and the letter after the backslash. -/
def shortEscapes : List (Char × Char) :=
  [('\\', '\\'), ('"', '"'), (Char.ofNat 8, 'b'), (Char.ofNat 9, 't'), (Char.ofNat 10, 'n'),
    (Char.ofNat 12, 'f'), (Char.ofNat 13, 'r')]

theorem shortEscapes_eval :
    ∀ p ∈ shortEscapes, escapeChar p.1 = ['\\', p.2] ∧ escapeWidth p.1 = 2 := by decide +kernel

theorem hex4_ctl {n : Nat} (h : n ≤ 0x1f) :
    n / 4096 % 16 = 0 ∧ n / 256 % 16 = 0 ∧ n / 16 % 16 = n / 16 := by
  rw [Nat.div_eq_of_lt (b := 4096) (by omega), Nat.div_eq_of_lt (b := 256) (by omega)]
  exact ⟨rfl, rfl, Nat.mod_eq_of_lt (by omega)⟩

theorem escape_cases {P : Char → List Char → Nat → Prop}
    (short : ∀ p ∈ shortEscapes, P p.1 ['\\', p.2] 2)
    (ctl : ∀ c : Char, c.toNat < 0x20 →
      P c ['\\', 'u', '0', '0', hexDigitLower (c.toNat / 16), hexDigitLower (c.toNat % 16)] 6)
    (raw : ∀ c : Char, 0x20 ≤ c.toNat → c ≠ '\\' → c ≠ '"' → P c [c] 1) (c : Char) :
    P c (escapeChar c) (escapeWidth c) := by
  by_cases hs : ∃ p ∈ shortEscapes, c = p.1
  · obtain ⟨p, hp, rfl⟩ := hs
    rw [(shortEscapes_eval p hp).1, (shortEscapes_eval p hp).2]
    exact short p hp
  · simp only [shortEscapes, List.mem_cons, List.not_mem_nil, or_false, exists_eq_or_imp,
      exists_eq_left, not_or] at hs
    obtain ⟨h1, h2, h3, h4, h5, h6, h7⟩ := hs
    rw [escapeChar, if_neg h1, if_neg h2, if_neg h3, if_neg h4, if_neg h5, if_neg h6, if_neg h7]
    simp only [escapeWidth, h1, h2, h3, h4, h5, h6, h7, decide_false, Bool.or_self,
      Bool.false_eq_true, if_false]
    by_cases h : c.toNat ≤ 0x1f
    · obtain ⟨e1, e2, e3⟩ := hex4_ctl h
      rw [if_pos h, if_pos h, e1, e2, e3]
      exact ctl c (Nat.lt_succ_of_le h)
    · rw [if_neg h, if_neg h]
      exact raw c (Nat.gt_of_not_le h) h1 h2

theorem escapeChar_length (c : Char) : (escapeChar c).length = escapeWidth c :=
  escape_cases (P := fun _ e w => e.length = w) (fun _ _ => rfl) (fun _ _ => rfl)
    (fun _ _ _ _ => rfl) c

end JsonVerif
