import JsonVerif.Lemmas.Mapped
import JsonVerif.Lemmas.ObjInv
/-!
# Keyed mapped lookups (`get_mapped*`, `get_unique_mapped*`) — C11

The `mapped_entries_iter!` iterators walk the indexes of a key (ascending, from the key index) and
advance a running `(last_index, offset)` pair through the code map. Under the C06 invariant and a
well-formed volume column they yield, for each entry carrying the key, exactly the offsets that
`iter_mapped` assigns to that entry.
-/
namespace JsonVerif

/-- code-map offset of entry `i` of an object whose first entry sits at `o` -/
def entryOff : Nat → List (Key × JValue) → Nat → Nat
  | o, _, 0 => o
  | o, [], _ + 1 => o
  | o, (_, v) :: es, i + 1 => entryOff (o + 2 + v.frags) es i

theorem entryOff_succ : ∀ (es : List (Key × JValue)) (o j : Nat) (h : j < es.length),
    entryOff o es (j + 1) = entryOff o es j + 2 + (es[j]).2.frags
  | _ :: _, _, 0, _ => rfl
  | _ :: es, _, j + 1, h => entryOff_succ es _ j (Nat.lt_of_succ_lt_succ h)

/-- `entryOff` is where `iter_mapped` puts entry `i` -/
theorem offsetsM_entryOff (es : List (Key × JValue)) (o i : Nat) (hi : i < es.length) :
    (offsetsM o es)[i]? = some (entryOff o es i, entryOff o es i + 1, entryOff o es i + 2) := by
  induction es generalizing o i with
  | nil => cases hi
  | cons e es ih =>
    cases i with
    | zero => rfl
    | succ i => exact ih _ i (Nat.lt_of_succ_lt_succ hi)

theorem volAt_entry (cm : List CMEntry) : ∀ (es : List (Key × JValue)) (o j : Nat)
    (hj : j < es.length), At (volumes cm) o (volsM es) →
    volAt cm (entryOff o es j + 2) = some (es[j]).2.frags
  | (k, v) :: es, o, 0, _, h => by rw [volAt_eq]; exact (At.vols (o := o + 2) h.tail.tail).1
  | (k, v) :: es, o, j + 1, hj, h =>
    volAt_entry cm es _ j (Nat.lt_of_succ_lt_succ hj) (At.vols (o := o + 2) h.tail.tail).2

theorem advanceTo_eq (cm : List CMEntry) (es : List (Key × JValue)) (o : Nat)
    (h : At (volumes cm) o (volsM es)) (i : Nat) (hi : i ≤ es.length) :
    ∀ (fuel last : Nat), last ≤ i → i - last ≤ fuel →
      advanceTo cm i fuel last (entryOff o es last) = some (i, entryOff o es i) := by
  intro fuel
  induction fuel with
  | zero =>
    intro last hl hf
    have : i ≤ last := Nat.sub_eq_zero_iff_le.mp (Nat.le_zero.mp hf)
    cases Nat.le_antisymm hl this
    rfl
  | succ fuel ih =>
    intro last hl hf
    rw [advanceTo]
    split
    · rename_i hlt
      have hlast : last < es.length := Nat.lt_of_lt_of_le hlt hi
      rw [volAt_entry cm es o last hlast h]
      have := ih (last + 1) hlt (by omega)
      rwa [entryOff_succ es o last hlast] at this
    · rename_i hge
      cases Nat.le_antisymm hl (Nat.le_of_not_lt hge)
      rfl

theorem mappedEntriesFrom_eq (cm : List CMEntry) (es : List (Key × JValue)) (o : Nat)
    (h : At (volumes cm) o (volsM es)) :
    ∀ (is : List Nat) (last : Nat), is.Pairwise (· < ·) → (∀ i ∈ is, last ≤ i ∧ i < es.length) →
      mappedEntriesFrom cm is last (entryOff o es last) =
        some (is.map (fun i => (i, entryOff o es i, entryOff o es i + 1, entryOff o es i + 2))) := by
  intro is
  induction is with
  | nil => intro _ _ _; rfl
  | cons i is ih =>
    intro last hs hb
    have hi := hb i List.mem_cons_self
    have hc := List.pairwise_cons.mp hs
    simp only [mappedEntriesFrom]
    rw [advanceTo_eq cm es o h i (Nat.le_of_lt hi.2) (i + 1) last hi.1
      (Nat.le_succ_of_le (Nat.sub_le ..))]
    simp only
    rw [ih i hc.2 fun j hj => ⟨Nat.le_of_lt (hc.1 j hj), (hb j (List.mem_cons_of_mem _ hj)).2⟩]
    rfl

theorem mappedEntries_eq (cm : List CMEntry) (o : Obj) (hinv : Inv o) (pre post : List Nat) (k : Key)
    (h : volumes cm = pre ++ volsV (.object o.entries) ++ post) :
    mappedEntries cm pre.length o k =
      some ((posOf k o.entries).map (fun i =>
        (i, entryOff (pre.length + 1) o.entries i, entryOff (pre.length + 1) o.entries i + 1,
          entryOff (pre.length + 1) o.entries i + 2))) := by
  unfold mappedEntries
  rw [indexesOf_eq hinv k]
  exact mappedEntriesFrom_eq cm o.entries _ (At.of_eq h).tail (posOf k o.entries) 0
    (posOf_sorted k o.entries) fun i hi => ⟨Nat.zero_le _, lt_of_keyAt (mem_posOf.mp hi)⟩

end JsonVerif
