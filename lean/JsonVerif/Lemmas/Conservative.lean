import JsonVerif.Lemmas.Run
/-!
# Lenient options are a conservative extension (C12, first clause)

Whatever succeeds under the strict record succeeds with the same result under every record: on a
successful strict run no branch that consults an option is ever taken. The same holds of a strict run
that stops at an unexpected character (`Ext` carries both halves); C07 needs that half to complete
the prefix read so far under the lenient grammar (`not_viable_beyond`).
-/
namespace JsonVerif

/-- what the strict record does with an element without failing, every record does: the options
    are consulted only where the strict record fails -/
theorem onElem_mono {o : ParseOptions} {high : Option (Nat × Nat)} {q p : Nat} {e : Elem} {cs : List Char}
    {hi : Option (Nat × Nat)} {fin : Bool} (h : onElem strictOpts high q p e = .out cs hi fin) :
    onElem o high q p e = .out cs hi fin := by
  cases high with
  | none =>
    cases e with
    | unit cp =>
      simp only [onElem, onElem0] at h ⊢
      by_cases hh : isHigh cp = true
      · rwa [if_pos hh] at h ⊢
      · rw [if_neg hh] at h ⊢
        cases hc : ofCp cp with
        | some ch => rw [hc] at h; exact h
        | none => rw [hc] at h; cases h
    | _ => exact h
  | some ph =>
    cases e with
    | unit cp =>
      simp only [onElem] at h ⊢
      by_cases hl : isLow cp = true
      · simp only [if_pos hl] at h ⊢
        cases hc : ofCp (pairCp ph.2 cp) with
        | some ch => rw [hc] at h; exact h
        | none => rw [hc] at h; cases h
      · simp only [if_neg hl] at h; cases h
    | _ => cases h

/-- `s` is a variable so that the one lemma serves `.more` and `.done`: callers pass the constructor and
    discharge `hs` by `nomatch` -/
theorem strStep_mono {o : ParseOptions} {bad : Bool} {acc : List Char} {high : Option (Nat × Nat)}
    {l : List Char} {pos : Nat} {s : StrStep} (h : strStep strictOpts bad acc high l pos = s)
    (hs : ∀ x, s ≠ .err x) : strStep o bad acc high l pos = s := by
  subst h
  rcases strStep_cases strictOpts bad acc high l pos with ⟨w, _, e, hr, rfl, h⟩ | ⟨w, _, _, rfl, h⟩
  · rw [h, strStep_reads hr]
    cases he : onElem strictOpts high pos (pos + utf8Len w) e with
    | out cs hi fin => rw [onElem_mono he]
    | err x => rw [h, he] at hs; exact absurd rfl (hs x)
  · exact absurd h (hs _)

theorem strStep_emono {o : ParseOptions} {bad : Bool} {acc : List Char} {high : Option (Nat × Nat)}
    {l : List Char} {pos q : Nat} {c : Option Char}
    (h : strStep strictOpts bad acc high l pos = .err (.unexpected q c)) :
    strStep o bad acc high l pos = .err (.unexpected q c) := by
  obtain ⟨_, _, hs, rfl, rfl, _, he⟩ := strStep_unexpected_inv h
  rw [strStep_stuck hs, he]

/-- The strict loop, unless it fails otherwise than at an unexpected character, goes the same way
    under every option record. -/
theorem strLoopAux_ext {o : ParseOptions} {bad : Bool} (fuel : List Char)
    {acc : List Char} {high : Option (Nat × Nat)} {l : List Char} {pos : Nat}
    {r : Except PErr (List Char × List Char × Nat × Nat)}
    (h : strLoopAux strictOpts bad fuel acc high l pos = r)
    (hr : ∀ e, r = .error e → ∃ q c, e = .unexpected q c) :
    strLoopAux o bad fuel acc high l pos = r := by
  induction fuel, acc, high, l, pos using strLoopAux_induct (o := strictOpts) (bad := bad) with
  | done hs => rw [strLoopAux_done hs] at h; rw [strLoopAux_done (strStep_mono hs nofun), h]
  | err hs =>
    rw [strLoopAux_err hs] at h
    obtain ⟨_, _, rfl⟩ := hr _ h.symm
    rw [strLoopAux_err (strStep_emono hs), h]
  | fuel hs => rw [strLoopAux_fuel hs] at h; obtain ⟨_, _, hh⟩ := hr _ h.symm; cases hh
  | more hs ih => rw [strLoopAux_more hs] at h; rw [strLoopAux_more (strStep_mono hs nofun)]; exact ih h

/-! `Ext m m'`: whatever `m` does when it succeeds or stops at an unexpected character, `m'` does too.
    It holds between the strict and any other instance of a program as soon as it holds of the one
    option-dependent primitive, `lexString`. The two halves of `Ext.X` by name: `X_mono`, `X_emono`. -/

open Lex

def Ext (m m' : Lex α) : Prop :=
  ∀ s, (∀ r, m s = .ok r → m' s = .ok r) ∧
    ∀ q c, m s = .error (.unexpected q c) → m' s = .error (.unexpected q c)

theorem Ext.refl (m : Lex α) : Ext m m := fun _ => ⟨fun _ h => h, fun _ _ h => h⟩

theorem Ext.bind {m m' : Lex α} {k k' : α → Lex β} (hm : Ext m m') (hk : ∀ a, Ext (k a) (k' a)) :
    Ext (bind m k) (bind m' k') := fun s => by
  unfold Lex.bind
  cases h : m s with
  | error e =>
    refine ⟨fun _ hh => (by cases hh), fun q c hh => ?_⟩
    cases hh; simp only [(hm s).2 q c h]
  | ok r => simp only [(hm s).1 r h]; exact hk r.1 r.2

theorem Ext.ite {c : Prop} [Decidable c] {a a' b b' : Lex α} (ha : Ext a a') (hb : Ext b b') :
    Ext (if c then a else b) (if c then a' else b') := by
  split <;> assumption

theorem Ext.peekC {k k' : Char → Lex α} (hk : ∀ c, Ext (k c) (k' c)) : Ext (peekC k) (peekC k') :=
  fun s => by
    unfold Lex.peekC
    split
    · exact ⟨fun _ h => h, fun _ _ h => h⟩
    · exact hk _ s

theorem Ext.peek {k k' : Option Char → Lex α} (hk : ∀ c, Ext (k c) (k' c)) : Ext (peek k) (peek k') :=
  fun s => hk _ s

theorem Ext.strScan (o : ParseOptions) : Ext (raw (strScan strictOpts)) (raw (strScan o)) := fun s => by
  refine ⟨fun r h => ?_, fun q c h => ?_⟩
  · obtain ⟨_, _⟩ := r
    obtain ⟨r', p, h1, hs⟩ := raw_ok.1 h
    obtain ⟨q, hv⟩ := strScan_ok.1 h1
    exact raw_ok.2 ⟨r', p, strScan_ok.2 ⟨q, strLoopAux_ext _ hv fun _ hh => nomatch hh⟩, hs⟩
  · exact raw_error.2 (strScan_error.2
      (strLoopAux_ext _ (strScan_error.1 (raw_error.1 h)) fun _ hh => ⟨q, c, by cases hh; rfl⟩))

theorem Ext.lexString (o : ParseOptions) : Ext (lexString strictOpts) (lexString o) := by
  rw [lexString_eq, lexString_eq]
  exact .bind (.refl _) fun _ => .peekC fun _ =>
    .ite (.bind (.refl _) fun _ => .bind (.strScan o) fun _ => .refl _) (.refl _)

theorem Ext.lexKeyColon (o : ParseOptions) :
    Ext (ofTriple (lexKeyColon strictOpts)) (ofTriple (lexKeyColon o)) := by
  rw [lexKeyColon_eq, lexKeyColon_eq]
  exact .bind (.refl _) fun _ => .bind (.lexString o) fun _ => .refl _

theorem Ext.startObjectKey (o : ParseOptions) (i : Nat) :
    Ext (startObjectKey strictOpts i) (startObjectKey o i) := by
  rw [startObjectKey_eq, startObjectKey_eq]
  exact .bind (.lexKeyColon o) fun _ => .refl _

theorem Ext.opener {c d : Char} {v : α} {k k' : Nat → Lex α} (hk : ∀ i, Ext (k i) (k' i)) :
    Ext (opener c d v k) (opener c d v k') :=
  .bind (.refl _) fun i => .bind (.refl _) fun _ => .bind (.refl _) fun _ => .peek fun _ => .ite (.refl _) (hk i)

theorem Ext.startObject (o : ParseOptions) : Ext (startObject strictOpts) (startObject o) := by
  rw [startObject_eq, startObject_eq]
  exact .opener (.startObjectKey o)

theorem Ext.parseFragment (o : ParseOptions) (ctx : Ctx) :
    Ext (parseFragment strictOpts ctx) (parseFragment o ctx) := by
  rw [parseFragment_eq, parseFragment_eq]
  exact .bind (.refl _) fun _ => .peekC fun _ =>
    .ite (.refl _) <| .ite (.refl _) <| .ite (.refl _) <| .ite (.bind (.lexString o) fun _ => .refl _) <|
    .ite (.refl _) <| .ite (.startObject o) (.refl _)

theorem Ext.contObject (o : ParseOptions) (i : Nat) : Ext (contObject strictOpts i) (contObject o i) := by
  rw [contObject_eq, contObject_eq]
  exact .bind (.refl _) fun _ => .peekC fun _ =>
    .ite (.bind (.refl _) fun _ => .bind (.refl _) fun _ => .bind (.lexKeyColon o) fun _ => .refl _) (.refl _)

theorem lexString_mono {o : ParseOptions} {s : PS} {r : List Char × PS}
    (h : lexString strictOpts s = .ok r) : lexString o s = .ok r := (Ext.lexString o s).1 r h

theorem parseFragment_mono {o : ParseOptions} {ctx : Ctx} {s : PS} {r : Fragment × PS}
    (h : parseFragment strictOpts ctx s = .ok r) : parseFragment o ctx s = .ok r :=
  (Ext.parseFragment o ctx s).1 r h

theorem contObject_mono {o : ParseOptions} {i : Nat} {s : PS} {r : ObjCont × PS}
    (h : contObject strictOpts i s = .ok r) : contObject o i s = .ok r := (Ext.contObject o i s).1 r h

theorem Goto.mono {o k v s k' v' s'} (h : Goto strictOpts k v s k' v' s') : Goto o k v s k' v' s' := by
  cases h with
  | frag hk h => exact .frag hk (parseFragment_mono h)
  | item => exact .item
  | entry h => exact .entry h
  | arr h => exact .arr h
  | obj h => exact .obj (contObject_mono h)

theorem Ext.run (o : ParseOptions) (k : List StackItem) (v : Option JValue) :
    Ext (run strictOpts k v) (run o k v) := fun s => by
  induction k, v, s using run_induct strictOpts with
  | halt hh =>
    rw [run_halt hh]
    cases hh with
    | finish => rw [run_halt .finish]; exact Ext.refl _ _
    | frag hk h1 =>
      exact ⟨fun _ h => (nomatch h), fun _ _ h => by cases h; exact run_halt (.frag hk ((Ext.parseFragment o _ _).2 _ _ h1))⟩
    -- `endFragment` fails with `panic` only, never at an unexpected character
    | entry h1 => exact ⟨fun _ h => (nomatch h), fun _ _ h => by cases h; cases (endFragment_error.1 h1).2⟩
    | arr h1 => exact ⟨fun _ h => (nomatch h), fun _ _ h => by cases h; exact run_halt (.arr h1)⟩
    | obj h1 =>
      exact ⟨fun _ h => (nomatch h), fun _ _ h => by cases h; exact run_halt (.obj ((Ext.contObject o _ _).2 _ _ h1))⟩
  | goto hg ih => rw [run_goto hg, run_goto hg.mono]; exact ih

theorem run_mono {o : ParseOptions} {stack : List StackItem} {value : Option JValue} {s : PS}
    {r : JValue × PS} (h : run strictOpts stack value s = .ok r) : run o stack value s = .ok r :=
  (Ext.run o stack value s).1 r h

/-- An unexpected-character error of the strict parser is reported under every option record: such
    errors are raised on branches that never consult an option. -/
theorem run_emono {o : ParseOptions} {stack : List StackItem} {value : Option JValue} {s : PS}
    {q : Nat} {c : Option Char} (h : run strictOpts stack value s = .error (.unexpected q c)) :
    run o stack value s = .error (.unexpected q c) := (Ext.run o stack value s).2 q c h

end JsonVerif
