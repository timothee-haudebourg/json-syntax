import JsonVerif.Model.Kind
/-!
# `KindSet` as a finite set of kinds: the abstract set, and the lemmas behind C20

What is evaluated by the kernel is, per set of the 64-set domain, one step of the iterator from
either end (`step_ok`), the length (`len_eq`) and the two constant sets (`toList_none_all`); the
rest is argued from that. The declarations live in the namespace of the property (`JsonVerif.C20`),
whose statements are written in these terms.
-/
namespace JsonVerif.C20

/-- membership in the set a `KindSet` denotes: by mask -/
def mem (s : KindSet) (k : Kind) : Bool := s.bits &&& k.mask != 0
/-- the set a `KindSet` denotes, listed in ascending kind order -/
def toList (s : KindSet) : List Kind := Kind.all.filter (mem s)

/-- The 64 values a `KindSet` can take through the public API, and the six kinds, as the finite
    domains the statements quantify over. -/
def ofFin (i : Fin 64) : KindSet := ⟨i.val⟩
def kindOf (i : Fin 6) : Kind := Kind.all[i.val]'(by simp [Kind.all])

def bit (k : Kind) : Nat := k.mask.log2

theorem mask_eq (k : Kind) : k.mask = 2 ^ bit k := by cases k <;> decide

theorem mask_lt (k : Kind) : k.mask < 64 := by cases k <;> decide

theorem bit_surj : ∀ i : Fin 6, ∃ k ∈ Kind.all, bit k = i := by decide

/-- Distinct kinds own distinct bits. -/
theorem mem_ofKind (l k : Kind) : mem (.ofKind l) k = decide (l = k) := by
  cases l <;> cases k <;> rfl

theorem and_two_pow_ne_zero (a i : Nat) : (a &&& 2 ^ i != 0) = a.testBit i := by
  cases h : a.testBit i
  · rw [Nat.eq_of_testBit_eq (x := a &&& 2 ^ i) (y := 0) fun j => by
      by_cases e : i = j
      · simp [← e, h]
      · simp [e]]
    rfl
  · exact bne_iff_ne.2 fun e => by simpa [h] using congrArg (·.testBit i) e

theorem mem_eq (s : KindSet) (k : Kind) : mem s k = s.bits.testBit (bit k) := by
  rw [mem, mask_eq, and_two_pow_ne_zero]

theorem mem_toList {s : KindSet} {k : Kind} : k ∈ toList s ↔ mem s k = true := by
  simp only [toList, List.mem_filter, and_iff_right_iff_imp]
  intro; cases k <;> decide

theorem or_lt {a b : Nat} (ha : a < 64) (hb : b < 64) : a ||| b < 64 :=
  Nat.or_lt_two_pow (n := 6) ha hb

theorem and_lt (a : Nat) {b : Nat} (hb : b < 64) : a &&& b < 64 := Nat.and_lt_two_pow (n := 6) a hb

theorem toList_inj {s t : KindSet} (hs : s.bits < 64) (ht : t.bits < 64)
    (h : toList s = toList t) : s = t := by
  refine congrArg KindSet.mk (Nat.eq_of_testBit_eq fun i => ?_)
  by_cases hi : i < 6
  · obtain ⟨k, _, e⟩ := bit_surj ⟨i, hi⟩
    have : mem s k = mem t k := Bool.eq_iff_iff.2 (by rw [← mem_toList, ← mem_toList, h])
    rwa [mem_eq, mem_eq, e] at this
  · have hp : 2 ^ 6 ≤ 2 ^ i := Nat.pow_le_pow_right (by decide) (Nat.le_of_not_lt hi)
    rw [Nat.testBit_lt_two_pow (Nat.lt_of_lt_of_le hs hp),
      Nat.testBit_lt_two_pow (Nat.lt_of_lt_of_le ht hp)]

theorem toList_none_all : toList KindSet.none = [] ∧ toList KindSet.all = Kind.all := by
  decide +kernel

theorem mem_or (s t : KindSet) (k : Kind) : mem (s.or t) k = (mem s k || mem t k) := by
  simp only [mem_eq, KindSet.or, Nat.testBit_or]

theorem mem_and (s t : KindSet) (k : Kind) : mem (s.and t) k = (mem s k && mem t k) := by
  simp only [mem_eq, KindSet.and, Nat.testBit_and]

theorem len_eq : ∀ a : Fin 64, (ofFin a).len = (toList (ofFin a)).length ∧
    ((ofFin a).isEmpty = (toList (ofFin a)).isEmpty) := by decide +kernel

/-- What `next` may return on a set with members `l`: nothing iff there are none; else the least
    and a set, still in the domain, of exactly the others. `BackOk`: the same for `next_back` and
    the greatest. -/
def FrontOk (l : List Kind) : Option (Kind × Nat) → Prop
  | .none => l = []
  | some (k, b) => b < 64 ∧ l = k :: toList ⟨b⟩

def BackOk (l : List Kind) : Option (Kind × Nat) → Prop
  | .none => l = []
  | some (k, b) => b < 64 ∧ l = toList ⟨b⟩ ++ [k]

instance (l n) : Decidable (FrontOk l n) := by unfold FrontOk; split <;> infer_instance
instance (l n) : Decidable (BackOk l n) := by unfold BackOk; split <;> infer_instance

theorem step_ok : ∀ b, b < 64 → FrontOk (toList ⟨b⟩) (KindSetIter.next b) ∧
    BackOk (toList ⟨b⟩) (KindSetIter.nextBack b) := by
  decide +kernel

theorem sizeHint_eq {b : Nat} (hb : b < 64) : KindSetIter.sizeHint b = (toList ⟨b⟩).length :=
  (len_eq ⟨b, hb⟩).1

/-- Abstract double-ended iteration over a list: each step reports the yielded item and the number
    of items remaining afterwards. -/
def specRun : List Kind → List Bool → List (Option Kind × Nat)
  | _, [] => []
  | l, true :: ds => match l with          -- front
    | [] => (Option.none, 0) :: specRun [] ds
    | k :: r => (some k, r.length) :: specRun r ds
  | l, false :: ds => match l.reverse with  -- back
    | [] => (Option.none, 0) :: specRun [] ds
    | k :: r => (some k, r.length) :: specRun r.reverse ds

/-- The model iterator driven by an arbitrary sequence of front (`true`) / back (`false`) steps,
    reporting each yielded item and the `size_hint` after the step. -/
def implRun : Nat → List Bool → List (Option Kind × Nat)
  | _, [] => []
  | bits, d :: ds =>
    match (if d then KindSetIter.next bits else KindSetIter.nextBack bits) with
    | Option.none => (Option.none, KindSetIter.sizeHint bits) :: implRun bits ds
    | some (k, b) => (some k, KindSetIter.sizeHint b) :: implRun b ds

theorem implRun_eq (ds : List Bool) :
    ∀ {b : Nat}, b < 64 → implRun b ds = specRun (toList ⟨b⟩) ds := by
  induction ds with
  | nil => intros; rfl
  | cons d ds ih =>
    intro a ha
    cases d
    · have h := (step_ok _ ha).2
      simp only [implRun, Bool.false_eq_true, if_false]
      generalize KindSetIter.nextBack a = n at h
      match n, h with
      | .none, h => rw [ih ha, sizeHint_eq ha, (h : _ = [])]; rfl
      | some (k, b), ⟨hb, h⟩ => simp [h, ih hb, sizeHint_eq hb, specRun]
    · have h := (step_ok _ ha).1
      simp only [implRun, if_true]
      generalize KindSetIter.next a = n at h
      match n, h with
      | .none, h => rw [ih ha, sizeHint_eq ha, (h : _ = [])]; rfl
      | some (k, b), ⟨hb, h⟩ => simp [h, ih hb, sizeHint_eq hb, specRun]

def specDisplay : List Kind → List KTok
  | [] => []
  | k :: ks => .kind k :: ks.flatMap (fun k => [.comma, .kind k])

/-- "nothing" / a single kind / "a, b or c" / "anything". -/
def specJunction (sep : KTok) (l : List Kind) : List KTok :=
  if l = Kind.all then [.anything]
  else match l.reverse with
    | [] => [.nothing]
    | [k] => [.kind k]
    | last :: initRev => specDisplay initRev.reverse ++ [sep, .kind last]

theorem drainFuel_eq (n : Nat) : ∀ {b : Nat}, b < 64 → (toList ⟨b⟩).length < n →
    KindSetIter.drainFuel n b = toList ⟨b⟩ := by
  induction n with
  | zero => intro _ _ h; cases h
  | succ n ih =>
    intro a ha hn
    have h := (step_ok _ ha).1
    rw [KindSetIter.drainFuel]
    generalize KindSetIter.next a = r at h
    match r, h with
    | .none, h => exact h.symm
    | some (k, b), ⟨hb, h⟩ =>
      rw [h] at hn ⊢; exact congrArg _ (ih hb (Nat.lt_of_succ_lt_succ hn))

theorem drain_eq {b : Nat} (hb : b < 64) : KindSetIter.drain b = toList ⟨b⟩ :=
  drainFuel_eq 9 hb (Nat.lt_of_le_of_lt (List.length_filter_le ..) (by decide))

theorem display_eq {b : Nat} (hb : b < 64) : KindSet.display ⟨b⟩ = specDisplay (toList ⟨b⟩) := by
  rw [← drain_eq hb]; exact (specDisplay.eq_def _).symm

theorem junction_eq (sep : KTok) {a : Nat} (ha : a < 64) :
    KindSet.junction sep ⟨a⟩ = specJunction sep (toList ⟨a⟩) := by
  have hall : ((⟨a⟩ : KindSet) == KindSet.all) = decide (toList ⟨a⟩ = Kind.all) := by
    rw [← toList_none_all.2]
    exact decide_eq_decide.2 ⟨congrArg toList, toList_inj ha (by decide)⟩
  -- one step from the back, then one from the front: `toList a = first :: toList c ++ [last]`,
  -- which is how both `junction` and `specJunction` cut the list
  have h := (step_ok _ ha).2
  rw [KindSet.junction, specJunction, hall]
  generalize toList ⟨a⟩ = l at h ⊢
  generalize KindSetIter.nextBack a = r at h ⊢
  match r, h with
  | .none, h => cases (h : l = []); simp
  | some (last, b), ⟨hb, h⟩ =>
    cases (h : l = _)
    have h := (step_ok _ hb).1
    dsimp only
    generalize KindSetIter.next b = r at h ⊢
    match r, h with
    | .none, (h : toList _ = []) => simp [h]
    | some (first, c), ⟨hc, (h : toList _ = _)⟩ => simp [h, drain_eq hc, specDisplay]

end JsonVerif.C20
