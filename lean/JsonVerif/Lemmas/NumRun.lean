import JsonVerif.Model.ParseLex
/-!
# The number loop, characterised once

`numLoop` follows the automaton over the longest prefix `w` it can read (`NumRun ctx st w st'`) and
then stops: at the end of the input or before a character on which `numTrans` says `stop`
(`Stops`), or with an error before one on which it says `bad` (`numRun_total`).
-/
namespace JsonVerif

inductive NumRun (ctx : Ctx) : NumState → List Char → NumState → Prop
  | nil (st : NumState) : NumRun ctx st [] st
  | cons {st st1 st' : NumState} {c : Char} {w : List Char} :
      numTrans ctx st c = .to st1 → NumRun ctx st1 w st' → NumRun ctx st (c :: w) st'

def Stops (ctx : Ctx) (st : NumState) (r : List Char) : Prop := ∀ c ∈ r.head?, numTrans ctx st c = .stop

theorem numLoop_run {ctx : Ctx} {st st' : NumState} {w : List Char} (h : NumRun ctx st w st')
    (buf r : List Char) (pos : Nat) :
    numLoop ctx st buf (w ++ r) pos = numLoop ctx st' (buf ++ w) r (pos + utf8Len w) := by
  induction h generalizing buf pos with
  | nil => simp
  | cons ht _ ih => simp only [List.cons_append, numLoop, ht, ih]; simp [Nat.add_assoc]

theorem numLoop_stops {ctx : Ctx} {st : NumState} {r : List Char} (h : Stops ctx st r) (buf : List Char)
    (pos : Nat) : numLoop ctx st buf r pos = .ok (st, buf, r, pos) := by
  cases r with
  | nil => rfl
  | cons c r => simp only [numLoop, h c rfl]

theorem numLoop_bad {ctx : Ctx} {st : NumState} {c : Char} (h : numTrans ctx st c = .bad)
    (buf r : List Char) (pos : Nat) :
    numLoop ctx st buf (c :: r) pos = .error (.unexpected pos (some c)) := by
  simp only [numLoop, h]

theorem numRun_total (ctx : Ctx) : ∀ (l : List Char) (st : NumState), ∃ w r st', l = w ++ r ∧
    NumRun ctx st w st' ∧ (Stops ctx st' r ∨ ∃ c r', r = c :: r' ∧ numTrans ctx st' c = .bad)
  | [], st => ⟨[], [], st, rfl, .nil st, .inl (by simp [Stops])⟩
  | c :: l, st => by
    cases ht : numTrans ctx st c with
    | to st1 =>
      obtain ⟨w, r, st', rfl, hr, hs⟩ := numRun_total ctx l st1
      exact ⟨c :: w, r, st', rfl, .cons ht hr, hs⟩
    | stop => exact ⟨[], c :: l, st, rfl, .nil st, .inl (by simpa [Stops] using ht)⟩
    | bad => exact ⟨[], c :: l, st, rfl, .nil st, .inr ⟨c, l, rfl, ht⟩⟩

theorem numLoop_ok_inv {ctx : Ctx} {st : NumState} {buf l : List Char} {pos : Nat}
    {st' : NumState} {buf' r : List Char} {p : Nat}
    (h : numLoop ctx st buf l pos = .ok (st', buf', r, p)) :
    ∃ w, l = w ++ r ∧ NumRun ctx st w st' ∧ Stops ctx st' r ∧ buf' = buf ++ w ∧ p = pos + utf8Len w := by
  obtain ⟨w, _, _, rfl, hr, hs | ⟨_, _, rfl, hb⟩⟩ := numRun_total ctx l st
  · rw [numLoop_run hr, numLoop_stops hs] at h
    cases h; exact ⟨w, rfl, hr, hs, rfl, rfl⟩
  · rw [numLoop_run hr, numLoop_bad hb] at h; cases h

theorem numLoop_err_inv {ctx : Ctx} {st : NumState} {buf l : List Char} {pos : Nat} {e : PErr}
    (h : numLoop ctx st buf l pos = .error e) :
    ∃ w c r st', l = w ++ c :: r ∧ NumRun ctx st w st' ∧ numTrans ctx st' c = .bad ∧
      e = .unexpected (pos + utf8Len w) (some c) := by
  obtain ⟨w, _, st0, rfl, hr, hs | ⟨c, r', rfl, hb⟩⟩ := numRun_total ctx l st
  · rw [numLoop_run hr, numLoop_stops hs] at h; cases h
  · rw [numLoop_run hr, numLoop_bad hb] at h
    cases h; exact ⟨w, c, r', st0, rfl, hr, hb, rfl⟩

/-- `stop` comes from `orFollow`, which only the accepting states use: in the others every branch
    is a transition or `bad` -/
theorem numTrans_stop_accepting {ctx : Ctx} {st : NumState} {c : Char} (h : numTrans ctx st c = .stop) :
    st.accepting = true := by
  cases st with
  | zero | nonZero | fracRest | expRest => rfl
  | init | firstDigit | fracFirst | expSign | expFirst =>
    simp only [numTrans] at h
    repeat' split at h
    all_goals cases h

end JsonVerif
