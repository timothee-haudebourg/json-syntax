import JsonVerif.Model.Basic
/-!
# Model of the `json!` macro (src/macros.rs)

Token trees as `macro_rules!` sees them, restricted to the shapes a JSON literal can contain:
`null` `true` `false`, literals (string, integer, float — a float literal denotes an `f64` whose
rendering by `Value::try_from(f64)` is supplied, lexical being opaque), `,` `:`, the three
delimited groups, and identifiers (variables bound to strings, usable in parenthesized keys).
`macro_rules!` semantics assumed: rules are tried in order, the first one whose matcher accepts
the input fires (rustc's matcher is modelled, not verified — DESIGN.md §6). `none` = no rule
applies / an error rule fires (the program does not compile).
-/
namespace JsonVerif

inductive MLit where
  | str (s : List Char)
  | int (i : Int)                               -- `Value::try_from(i)` = `Value::from(i32/i64/…)`
  | float (src rendered : List Char)            -- `Value::try_from(f64).unwrap()`

inductive Tok where
  | null | true_ | false_
  | lit (l : MLit)
  | comma | colon
  | bracket (ts : List Tok)
  | brace (ts : List Tok)
  | paren (ts : List Tok)
  | ident (name : List Char)

/-- `$crate::Value::try_from($lit).unwrap()` -/
def litValue : MLit → JValue
  | .str s => .string s
  | .int i => .number (toString i).toList
  | .float _ r => .number r

/-- `json!(@key (…))`: `$key.into()` for a string literal, a parenthesized expression or a variable
    (identifiers are looked up in `env`) -/
def keyOf (env : List Char → Option (List Char)) : List Tok → Option (List Char)
  | [.lit (.str s)] => some s
  | [.ident x] => env x
  | [.paren [.lit (.str s)]] => some s        -- the "fully parenthesized key" rule leaves `($key)` = the expr
  | [.paren [.ident x]] => env x
  | _ => none

-- the TT munchers, by structural recursion on the token trees
mutual
/-- the main rules applied to one token tree -/
def expandTok (env : List Char → Option (List Char)) : Tok → Option JValue
  | .null => some .null
  | .true_ => some (.bool true)
  | .false_ => some (.bool false)
  | .lit l => some (litValue l)
  | .bracket ts => (munchArray env [] false ts).map .array     -- `([])` and `([ $($tt)+ ])`
  | .brace ts => (munchObject env [] false ts).map .object     -- `({})` and `({ $($tt)+ })`
  | _ => none                                                 -- `Value::from($other)`: not a JSON literal
/-- `json!(@array [elems] rest…)`; the `Bool` is `true` when the accumulated list ends with an
    element (no comma yet): only the "comma after the most recent element" rule or the end may
    follow -/
def munchArray (env : List Char → Option (List Char)) :
    List JValue → Bool → List Tok → Option (List JValue)
  | acc, _, [] => some acc                                      -- done (with or without trailing comma)
  | acc, true, .comma :: rest => munchArray env acc false rest
  | _, true, _ :: _ => none                                     -- unexpected token after an element
  | _, false, .comma :: _ => none                               -- `,` where an element is expected
  | _, false, .colon :: _ => none
  | acc, false, t :: rest =>
    match expandTok env t with
    | some v => munchArray env (acc ++ [v]) true rest
    | none => none
/-- `json!(@object [elems] (key…) (rest…) copy)` restricted to single-token-tree keys -/
def munchObject (env : List Char → Option (List Char)) :
    List (List Char × JValue) → Bool → List Tok → Option (List (List Char × JValue))
  | acc, _, [] => some acc
  | acc, true, .comma :: rest => munchObject env acc false rest
  | _, true, _ :: _ => none
  | acc, false, k :: .colon :: t :: rest =>
    match keyOf env [k], expandTok env t with
    | some key, some v => munchObject env (acc ++ [(key, v)]) true rest
    | _, _ => none
  | _, false, _ => none
end

/-- `json!( tokens )` — a JSON literal is a single token tree; `Object::from_vec` keeps the
    entries as listed (duplicates preserved) -/
def expandJson (env : List Char → Option (List Char)) (ts : List Tok) : Option JValue :=
  match ts with
  | [t] => expandTok env t
  | _ => none

end JsonVerif
