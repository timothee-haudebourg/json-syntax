import JsonVerif.Model.ParseLen
/-!
# The parsing machine (`impl Parse for Value`, src/parse/value.rs) and the entry points
-/
namespace JsonVerif

/-- `StackItem` of `Value::parse_in`; `i` is the code-map index of the container,
    `e` the index of the pending entry. -/
inductive StackItem where
  | array (a : List JValue) (i : Nat)
  | arrayItem (a : List JValue) (i : Nat)
  | object (es : List JEntry) (i : Nat)
  | objectEntry (es : List JEntry) (i : Nat) (key : List Char) (e : Nat)

/-- What every iteration of the loop decreases: an iteration consumes a character, or it takes the
    pending value (`some v` becomes `none`) without consuming. The unread length counts twice so
    that a character consumed outweighs a value becoming pending in the same iteration. -/
def machineMeasure (value : Option JValue) (s : PS) : Nat :=
  2 * s.rest.length + (if value.isSome then 1 else 0)

/-- `loop { match stack.pop() { … } }` — one arm per arm of the Rust loop. The only recursion is
    this tail call: the nesting of the document lives in `stack`, not in the call stack.
    (The code-map index carried by `value: Option<Meta<Value, usize>>` is never read, so `value`
    is modelled as `Option JValue`.) -/
def run (o : ParseOptions) (stack : List StackItem) (value : Option JValue) (s : PS) :
    Except PErr (JValue × PS) :=
  match stack, value with
  | [], some v =>
    -- Fragment::value_or_parse returns the pending value; then trailing whitespace and EOF
    match skipWs s with
    | .error e => .error e
    | .ok s1 =>
      match s1.rest with
      | c :: _ => .error (.unexpected s1.pos (some c))
      | [] => .ok (v, s1)
  | [], none =>
    match h : parseFragment o .none s with
    | .error e => .error e
    | .ok (.value v, s') => run o [] (some v) s'
    | .ok (.beginArray i, s') => run o [.arrayItem [] i] none s'
    | .ok (.beginObject i key e, s') => run o [.objectEntry [] i key e] none s'
  | .array a i :: k, _ =>
    -- no value is pending here: every arm that leaves an `.array` / `.object` frame on top passes `none`
    match h : contArray i s with
    | .error e => .error e
    | .ok (.item, s') => run o (.arrayItem a i :: k) none s'
    | .ok (.end_, s') => run o k (some (.array a)) s'
  | .arrayItem a i :: k, some v => run o (.array (a ++ [v]) i :: k) none s
  | .arrayItem a i :: k, none =>
    match h : parseFragment o .array s with
    | .error e => .error e
    | .ok (.value v, s') => run o (.array (a ++ [v]) i :: k) none s'
    | .ok (.beginArray j, s') => run o (.arrayItem [] j :: .arrayItem a i :: k) none s'
    | .ok (.beginObject j key e, s') => run o (.objectEntry [] j key e :: .arrayItem a i :: k) none s'
  | .object es i :: k, _ =>
    match h : contObject o i s with
    | .error e => .error e
    | .ok (.entry key e, s') => run o (.objectEntry es i key e :: k) none s'
    | .ok (.end_, s') => run o k (some (.object es)) s'
  | .objectEntry es i key e :: k, some v =>
    match h : s.endFragment e with
    | .error x => .error x
    | .ok s' => run o (.object (es ++ [(key, v)]) i :: k) none s'
  | .objectEntry es i key e :: k, none =>
    match h : parseFragment o .objectValue s with
    | .error x => .error x
    | .ok (.value v, s') =>
      match h2 : s'.endFragment e with
      | .error x => .error x
      | .ok s'' => run o (.object (es ++ [(key, v)]) i :: k) none s''
    | .ok (.beginArray j, s') => run o (.arrayItem [] j :: .objectEntry es i key e :: k) none s'
    | .ok (.beginObject j key' e', s') =>
      run o (.objectEntry [] j key' e' :: .objectEntry es i key e :: k) none s'
-- `machineMeasure` decreases in every arm (`Goto.measure`); no arm needs `stack.length`
termination_by (machineMeasure value s, stack.length)
decreasing_by
  all_goals simp_wf
  -- each arm recurses on the state a lexer returned: `parseFragment`, `contArray`, `contObject`
  -- consume at least one character (their `_len` lemma, from the `h :` of the match), and
  -- `end_fragment` leaves the input alone (`endFragment_len`). The two arms without a lexer
  -- (`.arrayItem`, `.objectEntry` with `some v`) turn the pending value into `none`.
  all_goals (try (have := parseFragment_len h))
  all_goals (try (have := contArray_len h))
  all_goals (try (have := contObject_len h))
  all_goals (try (have := endFragment_len h))
  all_goals (try (have := endFragment_len h2))
  all_goals simp only [machineMeasure, Prod.lex_def] <;> simp <;> omega

/-! Linear executable twin of `run`: the items / entries of the containers under construction are
    kept in reverse (`v :: a` instead of `a ++ [v]`) and reversed once when the container is closed.
    Proved equal to `run` on the un-reversed stack and installed with `@[csimp]`: compiled code runs
    the twin, every theorem keeps speaking about `run`. -/
def StackItem.unrev : StackItem → StackItem
  | .array a i => .array a.reverse i
  | .arrayItem a i => .arrayItem a.reverse i
  | .object es i => .object es.reverse i
  | .objectEntry es i key e => .objectEntry es.reverse i key e

def runR (o : ParseOptions) (stack : List StackItem) (value : Option JValue) (s : PS) :
    Except PErr (JValue × PS) :=
  match stack, value with
  | [], some v =>
    match skipWs s with
    | .error e => .error e
    | .ok s1 =>
      match s1.rest with
      | c :: _ => .error (.unexpected s1.pos (some c))
      | [] => .ok (v, s1)
  | [], none =>
    match h : parseFragment o .none s with
    | .error e => .error e
    | .ok (.value v, s') => runR o [] (some v) s'
    | .ok (.beginArray i, s') => runR o [.arrayItem [] i] none s'
    | .ok (.beginObject i key e, s') => runR o [.objectEntry [] i key e] none s'
  | .array a i :: k, _ =>
    match h : contArray i s with
    | .error e => .error e
    | .ok (.item, s') => runR o (.arrayItem a i :: k) none s'
    | .ok (.end_, s') => runR o k (some (.array a.reverse)) s'
  | .arrayItem a i :: k, some v => runR o (.array (v :: a) i :: k) none s
  | .arrayItem a i :: k, none =>
    match h : parseFragment o .array s with
    | .error e => .error e
    | .ok (.value v, s') => runR o (.array (v :: a) i :: k) none s'
    | .ok (.beginArray j, s') => runR o (.arrayItem [] j :: .arrayItem a i :: k) none s'
    | .ok (.beginObject j key e, s') => runR o (.objectEntry [] j key e :: .arrayItem a i :: k) none s'
  | .object es i :: k, _ =>
    match h : contObject o i s with
    | .error e => .error e
    | .ok (.entry key e, s') => runR o (.objectEntry es i key e :: k) none s'
    | .ok (.end_, s') => runR o k (some (.object es.reverse)) s'
  | .objectEntry es i key e :: k, some v =>
    match h : s.endFragment e with
    | .error x => .error x
    | .ok s' => runR o (.object ((key, v) :: es) i :: k) none s'
  | .objectEntry es i key e :: k, none =>
    match h : parseFragment o .objectValue s with
    | .error x => .error x
    | .ok (.value v, s') =>
      match h2 : s'.endFragment e with
      | .error x => .error x
      | .ok s'' => runR o (.object ((key, v) :: es) i :: k) none s''
    | .ok (.beginArray j, s') => runR o (.arrayItem [] j :: .objectEntry es i key e :: k) none s'
    | .ok (.beginObject j key' e', s') =>
      runR o (.objectEntry [] j key' e' :: .objectEntry es i key e :: k) none s'
termination_by (machineMeasure value s, stack.length)
decreasing_by
  all_goals simp_wf
  all_goals (try (have := parseFragment_len h))
  all_goals (try (have := contArray_len h))
  all_goals (try (have := contObject_len h))
  all_goals (try (have := endFragment_len h))
  all_goals (try (have := endFragment_len h2))
  all_goals simp only [machineMeasure, Prod.lex_def] <;> simp <;> omega

theorem runR_eq (o : ParseOptions) (stack : List StackItem) (value : Option JValue) (s : PS) :
    runR o stack value s = run o (stack.map StackItem.unrev) value s := by
  fun_induction runR o stack value s
  all_goals simp only [List.map_cons, List.map_nil, StackItem.unrev]
  all_goals rw [run]
  -- each case records what the call `run` scrutinises returned: of the arms of `run` that one is
  -- left, and there the two sides are the induction hypothesis up to `reverse_cons`
  all_goals repeat' split
  all_goals simp_all [StackItem.unrev]

def runImpl (o : ParseOptions) (stack : List StackItem) (value : Option JValue) (s : PS) :
    Except PErr (JValue × PS) :=
  runR o (stack.map StackItem.unrev) value s

theorem StackItem.unrev_unrev (x : StackItem) : x.unrev.unrev = x := by
  cases x <;> simp [StackItem.unrev]

@[csimp] theorem run_eq_impl : @run = @runImpl := by
  funext o stack value s
  have : StackItem.unrev ∘ StackItem.unrev = id := funext StackItem.unrev_unrev
  simp only [runImpl, runR_eq, List.map_map, this, List.map_id]

/-- `Parse::parse_with` on a decoded character stream: `chars` are the characters the stream
    yields before it ends (`bad = false`) or fails (`bad = true`). -/
def parseChars (o : ParseOptions) (chars : List Char) (bad : Bool) :
    Except PErr (JValue × List CMEntry) :=
  match run o [] none { rest := chars, bad := bad, pos := 0, cm := #[] } with
  | .error e => .error e
  | .ok (v, s) => .ok (v, s.cm.toList)


/-- The same loop with an explicit iteration budget (`none` = budget exhausted). It is structurally
    recursive, hence evaluable by the kernel, and `runF_eq_run` (Lemmas/Steps.lean) shows that
    `2·|input| + 2` iterations always suffice: the step bound of C03. -/
def runF (o : ParseOptions) : Nat → List StackItem → Option JValue → PS →
    Option (Except PErr (JValue × PS))
  | 0, _, _, _ => none
  | n + 1, stack, value, s =>
    match stack, value with
    | [], some v =>
      match skipWs s with
      | .error e => some (.error e)
      | .ok s1 =>
        match s1.rest with
        | c :: _ => some (.error (.unexpected s1.pos (some c)))
        | [] => some (.ok (v, s1))
    | [], none =>
      match parseFragment o .none s with
      | .error e => some (.error e)
      | .ok (.value v, s') => runF o n [] (some v) s'
      | .ok (.beginArray i, s') => runF o n [.arrayItem [] i] none s'
      | .ok (.beginObject i key e, s') => runF o n [.objectEntry [] i key e] none s'
    | .array a i :: k, _ =>
      match contArray i s with
      | .error e => some (.error e)
      | .ok (.item, s') => runF o n (.arrayItem a i :: k) none s'
      | .ok (.end_, s') => runF o n k (some (.array a)) s'
    | .arrayItem a i :: k, some v => runF o n (.array (a ++ [v]) i :: k) none s
    | .arrayItem a i :: k, none =>
      match parseFragment o .array s with
      | .error e => some (.error e)
      | .ok (.value v, s') => runF o n (.array (a ++ [v]) i :: k) none s'
      | .ok (.beginArray j, s') => runF o n (.arrayItem [] j :: .arrayItem a i :: k) none s'
      | .ok (.beginObject j key e, s') =>
        runF o n (.objectEntry [] j key e :: .arrayItem a i :: k) none s'
    | .object es i :: k, _ =>
      match contObject o i s with
      | .error e => some (.error e)
      | .ok (.entry key e, s') => runF o n (.objectEntry es i key e :: k) none s'
      | .ok (.end_, s') => runF o n k (some (.object es)) s'
    | .objectEntry es i key e :: k, some v =>
      match s.endFragment e with
      | .error x => some (.error x)
      | .ok s' => runF o n (.object (es ++ [(key, v)]) i :: k) none s'
    | .objectEntry es i key e :: k, none =>
      match parseFragment o .objectValue s with
      | .error x => some (.error x)
      | .ok (.value v, s') =>
        match s'.endFragment e with
        | .error x => some (.error x)
        | .ok s'' => runF o n (.object (es ++ [(key, v)]) i :: k) none s''
      | .ok (.beginArray j, s') => runF o n (.arrayItem [] j :: .objectEntry es i key e :: k) none s'
      | .ok (.beginObject j key' e', s') =>
        runF o n (.objectEntry [] j key' e' :: .objectEntry es i key e :: k) none s'

end JsonVerif
