import JsonVerif.Model.ParseBasic
/-!
# Parser model (src/parse/*.rs), as the code is written: the state and the raw scanners

The state `PS` abstracts the decoder: what it will still deliver, whether it then fails, the byte
position (advanced by the UTF-8 length of each character, as `DecodedChar::from_utf8` does) and the
code map under construction. The Rust loops of this layer are structural recursions on the input
here; that they terminate is the totality half of C03.
-/
namespace JsonVerif

/-- Parser state: `Parser { chars, pending, position, code_map }`.
    `pending`/`chars` are abstracted to the list of characters not yet consumed (`peek_char`
    only fills `pending`, which is observationally `rest.head?`). -/
structure PS where
  rest : List Char
  bad : Bool          -- the character stream yields `Err` after `rest`
  pos : Nat
  cm : Array CMEntry      -- `CodeMap(Vec<Entry>)`
deriving Repr, Inhabited

namespace PS

/-- What `next_char`/`peek_char` return at the end of `rest`. -/
def eofErr (s : PS) : PErr := if s.bad then .stream s.pos else .unexpected s.pos none

/-- `peek_char` -/
def peek (s : PS) : Except PErr (Option Char) :=
  match s.rest with
  | c :: _ => .ok (some c)
  | [] => if s.bad then .error (.stream s.pos) else .ok none

/-- consume one character: the caller passes what it has matched `s.rest` against (`s.rest = c :: r`);
    `adv` does not look at `s.rest` itself -/
def adv (s : PS) (c : Char) (r : List Char) : PS := { s with rest := r, pos := s.pos + c.utf8Size }

/-- `begin_fragment` = `CodeMap::reserve(position)`: pushes a placeholder entry; the index it
    returns is the previous length `s.cm.size`. -/
def reserve (s : PS) : PS := { s with cm := s.cm.push ⟨s.pos, s.pos, 0⟩ }

/-- `let i = parser.begin_fragment();` — index and new state. (`noinline` only matters for the
    compiled driver: it keeps the code map uniquely referenced so that updates are in place.) -/
@[noinline] def beginFragment (s : PS) : Nat × PS := (s.cm.size, s.reserve)

@[simp] theorem beginFragment_fst (s : PS) : s.beginFragment.1 = s.cm.size := rfl
@[simp] theorem beginFragment_snd (s : PS) : s.beginFragment.2 = s.reserve := rfl

/-- `end_fragment(i)`: `get_mut(i).unwrap()` — `panic` when `i` is out of range. -/
def endFragment (s : PS) (i : Nat) : Except PErr PS :=
  match s.cm[i]? with
  | some e => .ok { s with cm := s.cm.setIfInBounds i ⟨e.start, s.pos, s.cm.size - i⟩ }
  | none => .error .panic

end PS

/-- `Options::strict()`, the default -/
def strictOpts : ParseOptions := ⟨false, false⟩
abbrev so : ParseOptions := ⟨false, false⟩

/-- `Options::flexible()`: every `\uXXXX` escape is accepted -/
def allOpts : ParseOptions := ⟨true, true⟩

/-- positions of the parser are byte offsets -/
def utf8Len : List Char → Nat
  | [] => 0
  | c :: r => c.utf8Size + utf8Len r

@[simp] theorem utf8Len_nil : utf8Len [] = 0 := rfl
@[simp] theorem utf8Len_cons (c : Char) (r : List Char) : utf8Len (c :: r) = c.utf8Size + utf8Len r := rfl
@[simp] theorem utf8Len_append (a b : List Char) : utf8Len (a ++ b) = utf8Len a + utf8Len b := by
  induction a with
  | nil => simp
  | cons c r ih => simp [ih]; omega

/-- `skip_whitespaces` on the raw character list -/
def skipWsL : List Char → Nat → List Char × Nat
  | [], pos => ([], pos)
  | c :: r, pos => if isWs c then skipWsL r (pos + c.utf8Size) else (c :: r, pos)

/-- `skip_whitespaces`. It peeks at the character after the whitespace, so at the end of a stream
    that fails to decode it is here that the stream error is raised; a lexer that looks ahead after
    `skipWs` therefore never meets it (`Lex.peek` ignores `bad`). -/
def skipWs (s : PS) : Except PErr PS :=
  let p := skipWsL s.rest s.pos
  if p.1.isEmpty && s.bad then .error (.stream p.2)
  else .ok { s with rest := p.1, pos := p.2 }

/-- `match parser.next_char()? { (_, Some(c)) => …, (p, unexpected) => Err(unexpected(p, unexpected)) }` -/
def expectChar (c : Char) (s : PS) : Except PErr PS :=
  match s.rest with
  | [] => .error s.eofErr
  | d :: r => if d = c then .ok (s.adv d r) else .error (.unexpected s.pos (some d))

/-! src/parse/null.rs, boolean.rs -/

def expectChars : List Char → PS → Except PErr PS
  | [], s => .ok s
  | c :: cs, s =>
    match expectChar c s with
    | .error e => .error e
    | .ok s' => expectChars cs s'

def lexNull (s : PS) : Except PErr PS :=
  let bf := s.beginFragment
  let i := bf.1
  let s0 := bf.2
  match expectChars ['n', 'u', 'l', 'l'] s0 with
  | .error e => .error e
  | .ok s1 => s1.endFragment i

def lexBool (s : PS) : Except PErr (Bool × PS) :=
  let bf := s.beginFragment
  let i := bf.1
  let s0 := bf.2
  match s0.rest with
  | [] => .error s0.eofErr
  | d :: _ =>
    if d = 't' then
      match expectChars ['t', 'r', 'u', 'e'] s0 with
      | .error e => .error e
      | .ok s1 =>
        match s1.endFragment i with
        | .error e => .error e
        | .ok s2 => .ok (true, s2)
    else if d = 'f' then
      match expectChars ['f', 'a', 'l', 's', 'e'] s0 with
      | .error e => .error e
      | .ok s1 =>
        match s1.endFragment i with
        | .error e => .error e
        | .ok s2 => .ok (false, s2)
    else .error (.unexpected s0.pos (some d))

/-! src/parse/number.rs -/

inductive NumState
  | init | firstDigit | zero | nonZero | fracFirst | fracRest | expSign | expFirst | expRest
deriving Repr, DecidableEq

inductive NumTr | to (s : NumState) | stop | bad
deriving Repr, DecidableEq

def isDigit (c : Char) : Bool := '0' ≤ c && c ≤ '9'
def isDigit19 (c : Char) : Bool := '1' ≤ c && c ≤ '9'
def isE (c : Char) : Bool := c = 'e' || c = 'E'

/-- one `match state { … match c { … } }` of the `while let` loop -/
def numTrans (ctx : Ctx) (st : NumState) (c : Char) : NumTr :=
  let orFollow : NumTr := if ctx.follows c then .stop else .bad
  match st with
  | .init => if c = '-' then .to .firstDigit else if c = '0' then .to .zero
      else if isDigit19 c then .to .nonZero else .bad
  | .firstDigit => if c = '0' then .to .zero else if isDigit19 c then .to .nonZero else .bad
  | .zero => if c = '.' then .to .fracFirst else if isE c then .to .expSign else orFollow
  | .nonZero => if isDigit c then .to .nonZero else if c = '.' then .to .fracFirst
      else if isE c then .to .expSign else orFollow
  | .fracFirst => if isDigit c then .to .fracRest else .bad
  | .fracRest => if isDigit c then .to .fracRest else if isE c then .to .expSign else orFollow
  | .expSign => if c = '+' || c = '-' then .to .expFirst else if isDigit c then .to .expRest else .bad
  | .expFirst => if isDigit c then .to .expRest else .bad
  | .expRest => if isDigit c then .to .expRest else orFollow

def NumState.accepting : NumState → Bool
  | .zero | .nonZero | .fracRest | .expRest => true
  | _ => false

/-- the `while let Some(c) = parser.peek_char()?` loop; structural on the input -/
def numLoop (ctx : Ctx) : NumState → List Char → List Char → Nat →
    Except PErr (NumState × List Char × List Char × Nat)
  | st, buf, [], pos => .ok (st, buf, [], pos)
  | st, buf, c :: r, pos =>
    match numTrans ctx st c with
    | .to st' => numLoop ctx st' (buf ++ [c]) r (pos + c.utf8Size)
    | .stop => .ok (st, buf, c :: r, pos)
    | .bad => .error (.unexpected pos (some c))

/-! Compiled code runs `numLoopFast` in place of `numLoop` (`@[csimp]`): appending to the buffer is
    quadratic, so the twin keeps the buffer reversed. -/
def numLoopFast (ctx : Ctx) : NumState → List Char → List Char → Nat →
    Except PErr (NumState × List Char × List Char × Nat)
  | st, rbuf, [], pos => .ok (st, rbuf.reverse, [], pos)
  | st, rbuf, c :: r, pos =>
    match numTrans ctx st c with
    | .to st' => numLoopFast ctx st' (c :: rbuf) r (pos + c.utf8Size)
    | .stop => .ok (st, rbuf.reverse, c :: r, pos)
    | .bad => .error (.unexpected pos (some c))

theorem numLoopFast_eq (ctx : Ctx) : ∀ (l : List Char) (st : NumState) (rbuf : List Char) (pos : Nat),
    numLoopFast ctx st rbuf l pos = numLoop ctx st rbuf.reverse l pos
  | [], st, rbuf, pos => by simp [numLoopFast, numLoop]
  | c :: r, st, rbuf, pos => by
    simp only [numLoopFast, numLoop]
    split
    · rw [numLoopFast_eq ctx r]; simp
    · rfl
    · rfl

def numLoopImpl (ctx : Ctx) (st : NumState) (buf l : List Char) (pos : Nat) :
    Except PErr (NumState × List Char × List Char × Nat) :=
  numLoopFast ctx st buf.reverse l pos

@[csimp] theorem numLoop_eq_impl : @numLoop = @numLoopImpl := by
  funext ctx st buf l pos
  simp [numLoopImpl, numLoopFast_eq]

def lexNumber (ctx : Ctx) (s : PS) : Except PErr (List Char × PS) :=
  let bf := s.beginFragment
  let i := bf.1
  let s0 := bf.2
  match numLoop ctx .init [] s0.rest s0.pos with
  | .error e => .error e
  | .ok (st, buf, r, pos) =>
    -- `peek_char()?` at the end of a stream that ends in a decoding error
    match r.isEmpty && s0.bad with
    | true => .error (.stream pos)
    | false =>
      match st.accepting with
      | true =>
        match ({ s0 with rest := r, pos := pos } : PS).endFragment i with
        | .error e => .error e
        | .ok s2 => .ok (buf, s2)
      | false => .error (.unexpected pos none)

/-! src/parse/string.rs -/

/-- `char::to_digit(16)` -/
def hexVal (c : Char) : Option Nat :=
  -- 48 = '0', 87 = 'a' - 10, 55 = 'A' - 10
  if '0' ≤ c ∧ c ≤ '9' then some (c.toNat - 48)
  else if 'a' ≤ c ∧ c ≤ 'f' then some (c.toNat - 87)
  else if 'A' ≤ c ∧ c ≤ 'F' then some (c.toNat - 55)
  else none

def isHigh (cp : Nat) : Bool := 0xd800 ≤ cp && cp ≤ 0xdbff
def isLow (cp : Nat) : Bool := 0xdc00 ≤ cp && cp ≤ 0xdfff

/-- `char::from_u32` -/
def ofCp (cp : Nat) : Option Char :=
  if h : cp.isValidChar then some (Char.ofNatAux cp h) else none

def fffd : Char := Char.ofNat 0xfffd

def esc2 (c : Char) : Option Char :=
  if c = '"' then some '"' else if c = '\\' then some '\\' else if c = '/' then some '/'
  else if c = 'b' then some (Char.ofNat 8) else if c = 't' then some (Char.ofNat 9)
  else if c = 'n' then some (Char.ofNat 10) else if c = 'f' then some (Char.ofNat 12)
  else if c = 'r' then some (Char.ofNat 13) else none

/-- `is_control` -/
def isControl (c : Char) : Bool := c.toNat ≤ 0x1f

def eofErrAt (bad : Bool) (pos : Nat) : PErr := if bad then .stream pos else .unexpected pos none

/-- the raw scanners raise through `eofErrAt` what the programs on states raise through `PS.eofErr` -/
theorem PS.eofErr_eq (s : PS) : s.eofErr = eofErrAt s.bad s.pos := rfl

theorem eofErrAt_unexpected {bad : Bool} {pos q : Nat} {c : Option Char}
    (h : eofErrAt bad pos = .unexpected q c) : q = pos ∧ c = none := by
  unfold eofErrAt at h
  split at h <;> cases h
  exact ⟨rfl, rfl⟩

theorem PS.eofErr_unexpected {s : PS} {q : Nat} {c : Option Char} (h : s.eofErr = .unexpected q c) :
    q = s.pos ∧ c = none := eofErrAt_unexpected h

/-- one `next_char` + `to_digit(16)` of `parse_hex4` -/
def hexDigitAt (bad : Bool) : List Char → Nat → Except PErr (Nat × List Char × Nat)
  | [], pos => .error (eofErrAt bad pos)
  | c :: r, pos => match hexVal c with
    | some h => .ok (h, r, pos + c.utf8Size)
    | none => .error (.unexpected pos (some c))

/-- `parse_hex4` -/
def hex4 (bad : Bool) (l : List Char) (pos : Nat) : Except PErr (Nat × List Char × Nat) :=
  match hexDigitAt bad l pos with
  | .error e => .error e
  | .ok (h3, l1, p1) =>
    match hexDigitAt bad l1 p1 with
    | .error e => .error e
    | .ok (h2, l2, p2) =>
      match hexDigitAt bad l2 p2 with
      | .error e => .error e
      | .ok (h1, l3, p3) =>
        match hexDigitAt bad l3 p3 with
        | .error e => .error e
        | .ok (h0, l4, p4) => .ok (h3 * 4096 + h2 * 256 + h1 * 16 + h0, l4, p4)

/-- `((high - 0xd800) << 10 | (low - 0xdc00)) + 0x010000` -/
def pairCp (h l : Nat) : Nat := (h - 0xd800) * 1024 + (l - 0xdc00) + 0x10000

/-- result of one iteration: `done` at the closing quote, with the string `acc`, the unread `rest`,
    the offset `pos` after the quote and the offset `qpos` of the quote itself (dropped by
    `lexString`); `more` with the pending high
    surrogate `high` = (offset of the `u` of its escape, code unit); or an error -/
inductive StrStep where
  | done (acc : List Char) (rest : List Char) (pos : Nat) (qpos : Nat)
  | more (acc : List Char) (high : Option (Nat × Nat)) (rest : List Char) (pos : Nat)
  | err (e : PErr)

/-- the tail of the loop body: a pending high surrogate followed by an ordinary character
    (string.rs, `if let Some((p_high, high)) = high_surrogate.take() { … } result.push(c)`);
    `pn` = `p_next`, the offset at which the current element started -/
def flushChar (o : ParseOptions) (acc : List Char) (high : Option (Nat × Nat)) (c : Char)
    (r : List Char) (pos pn : Nat) : StrStep :=
  match high with
  | none => .more (acc ++ [c]) none r pos
  | some (ph, h) =>
    if o.trunc then .more (acc ++ [fffd, c]) none r pos else .err (.missingLow ph pn h)

/-- decoding of a `\uXXXX` code unit when no high surrogate is pending; `pe` = offset of the `u` -/
def noHigh (o : ParseOptions) (acc : List Char) (pe : Nat) (cp : Nat) (r : List Char) (pos : Nat) :
    StrStep :=
  if isHigh cp then .more acc (some (pe, cp)) r pos
  else match ofCp cp with
    | some ch => .more (acc ++ [ch]) none r pos
    | none => if o.inval then .more (acc ++ [fffd]) none r pos else .err (.invalidCodePoint pe pos cp)

/-- the `(p, Some('u')) => …` arm: `pe` = offset of the `u`, `pos` = offset after it -/
def strEscU (o : ParseOptions) (bad : Bool) (acc : List Char) (high : Option (Nat × Nat))
    (r2 : List Char) (pe pos : Nat) : StrStep :=
  match hex4 bad r2 pos with
  | .error x => .err x
  | .ok (cp, r3, pos3) =>
    match high with
    | some (ph, h) =>
      if isLow cp then
        match ofCp (pairCp h cp) with
        | some ch => .more (acc ++ [ch]) none r3 pos3
        | none =>
          -- the Rust branch mirrored here is dead: a high and a low surrogate always combine to a
          -- scalar value (`ofCp_pair_some`, Lemmas/CodeUnit.lean)
          if o.inval then .more (acc ++ [fffd]) none r3 pos3
          else .err (.invalidCodePoint ph pos3 (pairCp h cp))
      else if o.trunc then noHigh o (acc ++ [fffd]) pe cp r3 pos3
      else .err (.invalidLow pe pos3 h cp)
    | none => noHigh o acc pe cp r3 pos3

/-- the `(_, Some('\\')) => match parser.next_char()? { … }` arm; `pos` = offset after the backslash -/
def strEsc (o : ParseOptions) (bad : Bool) (acc : List Char) (high : Option (Nat × Nat))
    (r : List Char) (pos pn : Nat) : StrStep :=
  match r with
  | [] => .err (eofErrAt bad pos)
  | e :: r2 =>
    if e = 'u' then strEscU o bad acc high r2 pos (pos + e.utf8Size)
    else match esc2 e with
      | some ch => flushChar o acc high ch r2 (pos + e.utf8Size) pn
      | none => .err (.unexpected pos (some e))

/-- one iteration of the `loop` of `SmallString::parse_in` -/
def strStep (o : ParseOptions) (bad : Bool) (acc : List Char) (high : Option (Nat × Nat))
    (l : List Char) (pos : Nat) : StrStep :=
  match l with
  | [] => .err (eofErrAt bad pos)
  | c :: r =>
    if c = '"' then
      match high with
      | none => .done acc r (pos + c.utf8Size) pos
      | some (ph, h) =>
        if o.trunc then .done (acc ++ [fffd]) r (pos + c.utf8Size) pos
        else .err (.missingLow ph pos h)
    else if c = '\\' then strEsc o bad acc high r (pos + c.utf8Size) pos
    else if isControl c then .err (.unexpected pos (some c))
    else flushChar o acc high c r (pos + c.utf8Size) pos

end JsonVerif
