import JsonVerif.Model.Object
import JsonVerif.Model.ParseBasic
/-!
# Code-map navigation (src/array.rs, src/object/mod.rs mapped iterators, src/lib.rs get_fragment /
# traverse / volume / count)

`cm.get(i).unwrap().volume` is `volAt cm i : Option Nat` (`none` = the unwrap panicked).
-/
namespace JsonVerif

def volAt (cm : List CMEntry) (i : Nat) : Option Nat := (cm[i]?).map (·.volume)

/-- `array::IterMapped`: starts at `offset + 1`; each item yields the current offset, then skips
    the item's volume. `none` = panic. -/
def arrayMappedFrom (cm : List CMEntry) : Nat → List JValue → Option (List Nat)
  | _, [] => some []
  | o, _ :: xs =>
    match volAt cm o with
    | none => none
    | some v => (arrayMappedFrom cm (o + v) xs).map (o :: ·)

def arrayMapped (cm : List CMEntry) (offset : Nat) (xs : List JValue) : Option (List Nat) :=
  arrayMappedFrom cm (offset + 1) xs

/-- `object::IterMapped`: entry at `o`, key at `o+1`, value at `o+2`; skip `2 + volume(value)`. -/
def objectMappedFrom (cm : List CMEntry) : Nat → List (Key × JValue) → Option (List (Nat × Nat × Nat))
  | _, [] => some []
  | o, _ :: es =>
    match volAt cm (o + 2) with
    | none => none
    | some v => (objectMappedFrom cm (o + 2 + v) es).map ((o, o + 1, o + 2) :: ·)

def objectMapped (cm : List CMEntry) (offset : Nat) (es : List (Key × JValue)) :
    Option (List (Nat × Nat × Nat)) :=
  objectMappedFrom cm (offset + 1) es

/-- the `while self.last_index < index { … }` loop of the `mapped_entries_iter!` iterators:
    advance `(last_index, offset)` to `index` -/
def advanceTo (cm : List CMEntry) (index : Nat) : Nat → Nat → Nat → Option (Nat × Nat)
  | 0, last, o => some (last, o)
  | fuel + 1, last, o =>
    if last < index then
      match volAt cm (o + 2) with
      | none => none
      | some v => advanceTo cm index fuel (last + 1) (o + 2 + v)
    else some (last, o)

/-- `get_mapped_entries(code_map, offset, key)`: for each index of the key (ascending), the entry
    offset triple -/
def mappedEntriesFrom (cm : List CMEntry) : List Nat → Nat → Nat → Option (List (Nat × Nat × Nat × Nat))
  | [], _, _ => some []
  | i :: is, last, o =>
    -- fuel `i + 1`: every round of the loop increments `last_index`, so at most `i - last ≤ i` run
    match advanceTo cm i (i + 1) last o with
    | none => none
    | some (last', o') => (mappedEntriesFrom cm is last' o').map ((i, o', o' + 1, o' + 2) :: ·)

def mappedEntries (cm : List CMEntry) (offset : Nat) (o : Obj) (k : Key) :
    Option (List (Nat × Nat × Nat × Nat)) :=
  mappedEntriesFrom cm (o.indexesOf k) 0 (offset + 1)

/-- fragments: `FragmentRef` -/
inductive Frag where
  | value (v : JValue)
  | entry (k : Key) (v : JValue)
  | key (k : Key)
deriving Repr

-- `Value::get_fragment` / `get_array_fragment` / `Object::get_fragment` / `Entry::get_fragment`:
-- `inl f` = `Ok(f)`, `inr n` = `Err(n)` (remaining distance)
mutual
def getFragment : JValue → Nat → Frag ⊕ Nat
  | v, 0 => .inl (.value v)
  | .array xs, i + 1 => getFragmentL xs i
  | .object es, i + 1 => getFragmentM es i
  | _, i + 1 => .inr i
def getFragmentL : List JValue → Nat → Frag ⊕ Nat
  | [], i => .inr i
  | x :: xs, i =>
    match getFragment x i with
    | .inl f => .inl f
    | .inr j => getFragmentL xs j
def getFragmentM : List (Key × JValue) → Nat → Frag ⊕ Nat
  | [], i => .inr i
  | (k, x) :: es, i =>
    match i with
    | 0 => .inl (.entry k x)
    | 1 => .inl (.key k)
    | j + 2 =>
      match getFragment x j with
      | .inl f => .inl f
      | .inr j' => getFragmentM es j'
end

/-- `FragmentRef::sub_fragments` -/
def Frag.subs : Frag → List Frag
  | .value (.array xs) => xs.map .value
  | .value (.object es) => es.map (fun e => .entry e.1 e.2)
  | .entry k v => [.key k, .value v]
  | _ => []

/-- `Traverse::next` iterated: pop, push the sub-fragments (reversed onto a Vec = prepended in
    order onto a list whose head is the top), yield. Fuel = number of fragments. -/
def traverseFuel : Nat → List Frag → List Frag
  | 0, _ => []
  | _, [] => []
  | n + 1, f :: st => f :: traverseFuel n (f.subs ++ st)

def traverse (v : JValue) : List Frag := traverseFuel v.frags [.value v]

/-- `Value::volume` = traversal entries that are values; `count(f)` = filtered traversal -/
def volume (v : JValue) : Nat := ((traverse v).filter (fun f => match f with | .value _ => true | _ => false)).length

end JsonVerif
