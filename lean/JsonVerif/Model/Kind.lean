import JsonVerif.Gen.KindTable
import JsonVerif.Model.Basic
/-!
# Model of `src/kind.rs`

`KindSet(u8)` and `KindSetIter(u8)` with every operator of the `kind_set!` macro, written over the
**regenerated** table `Gen.kindTable` (rows of the macro invocation in source order), so the
theorems of `Props/C20.lean` are re-checked against the masks and row order the code has now.
-/
namespace JsonVerif
open Gen

/-- `match other { Kind::$id => … $mask … }` -/
def Kind.mask (k : Kind) : Nat :=
  match kindTable.find? (fun r => r.1 == k) with
  | some r => r.2
  | none => 0

structure KindSet where
  bits : Nat          -- u8
deriving DecidableEq, Repr

namespace KindSet

def none : KindSet := ⟨0⟩
/-- `Self($($mask)|*)` -/
def all : KindSet := ⟨kindTable.foldl (fun a r => a ||| r.2) 0⟩
def ofKind (k : Kind) : KindSet := ⟨k.mask⟩
def or (a b : KindSet) : KindSet := ⟨a.bits ||| b.bits⟩
def and (a b : KindSet) : KindSet := ⟨a.bits &&& b.bits⟩
def orKind (s : KindSet) (k : Kind) : KindSet := ⟨s.bits ||| k.mask⟩
def andKind (s : KindSet) (k : Kind) : KindSet := ⟨s.bits &&& k.mask⟩

/-- `u8::count_ones` -/
def popcount8 (n : Nat) : Nat := ((List.range 8).filter (fun i => n.testBit i)).length

def len (s : KindSet) : Nat := popcount8 s.bits
def isEmpty (s : KindSet) : Bool := s.bits == 0

end KindSet

/-- `Kind | Kind`, `Kind | KindSet`, `Kind & Kind`, `Kind & KindSet` -/
def Kind.or (a b : Kind) : KindSet := (KindSet.ofKind a).or (KindSet.ofKind b)
def Kind.orSet (a : Kind) (s : KindSet) : KindSet := (KindSet.ofKind a).or s
def Kind.and (a b : Kind) : KindSet := (KindSet.ofKind a).and (KindSet.ofKind b)
def Kind.andSet (a : Kind) (s : KindSet) : KindSet := (KindSet.ofKind a).and s

namespace KindSetIter

/-- `!mask` on `u8` followed by `&=`. -/
def clear (bits m : Nat) : Nat := bits &&& (255 ^^^ m)

/-- `Iterator::next`: the first row (source order) whose mask is present. -/
def nextFrom (bits : Nat) : List (Kind × Nat) → Option (Kind × Nat)
  | [] => .none
  | (k, m) :: rows => if bits &&& m != 0 then some (k, clear bits m) else nextFrom bits rows

def next (bits : Nat) : Option (Kind × Nat) := nextFrom bits kindTable

/-- `DoubleEndedIterator::next_back`: the last row whose mask is present. -/
def nextBackFrom (bits : Nat) (result : Option (Kind × Nat)) : List (Kind × Nat) → Option (Kind × Nat)
  | [] => result.map (fun (k, m) => (k, clear bits m))
  | (k, m) :: rows =>
    if bits &&& m != 0 then nextBackFrom bits (some (k, m)) rows else nextBackFrom bits result rows

def nextBack (bits : Nat) : Option (Kind × Nat) := nextBackFrom bits .none kindTable

def sizeHint (bits : Nat) : Nat := KindSet.popcount8 bits

/-- `for k in iter { … }` — the iterator is fused and yields at most 8 items. -/
def drainFuel : Nat → Nat → List Kind
  | 0, _ => []
  | n+1, bits => match next bits with
    | some (k, b) => k :: drainFuel n b
    | .none => []

/-- fuel 9 = one more than the 8 bits of a `u8`: every item clears a bit, so the loop ends on
    `None` and never on the budget -/
def drain (bits : Nat) : List Kind := drainFuel 9 bits

end KindSetIter

/-- Output tokens of the three renderings (the driver turns them into text). -/
inductive KTok | kind (k : Kind) | comma | or_ | and_ | nothing | anything
deriving DecidableEq, Repr

/-- `impl Display for KindSet` -/
def KindSet.display (s : KindSet) : List KTok :=
  match KindSetIter.drain s.bits with
  | [] => []
  | k :: ks => .kind k :: ks.flatMap (fun k => [.comma, .kind k])

/-- `impl Display for KindSetDisjunction / KindSetConjunction` (`sep` = " or " / " and "). -/
def KindSet.junction (sep : KTok) (s : KindSet) : List KTok :=
  if s == KindSet.all then [.anything]
  else match KindSetIter.nextBack s.bits with
    | some (last, b1) =>
      (match KindSetIter.next b1 with
        | some (first, b2) =>
          .kind first :: (KindSetIter.drain b2).flatMap (fun k => [.comma, .kind k]) ++ [sep]
        | .none => []) ++ [.kind last]
    | .none => [.nothing]

/-- `Value::kind` (src/lib.rs) -/
def JValue.kind : JValue → Kind
  | .null => .null | .bool _ => .boolean | .number _ => .number
  | .string _ => .string | .array _ => .array | .object _ => .object

end JsonVerif
