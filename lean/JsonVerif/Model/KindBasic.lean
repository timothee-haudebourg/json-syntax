/-!
# The six value kinds (`Kind`, src/kind.rs)

Apart from Model/Kind.lean so that the regenerated table Gen/KindTable.lean, which Model/Kind.lean
is written over, can name them.
-/
namespace JsonVerif

/-- `json_syntax::Kind` (src/kind.rs), in declaration order. -/
inductive Kind | null | boolean | number | string | array | object
deriving DecidableEq, Repr, Inhabited

def Kind.all : List Kind := [.null, .boolean, .number, .string, .array, .object]

def Kind.idx : Kind → Nat
  | .null => 0 | .boolean => 1 | .number => 2 | .string => 3 | .array => 4 | .object => 5

end JsonVerif
