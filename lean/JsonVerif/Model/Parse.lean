import JsonVerif.Lemmas.StrElem
/-!
# Parser model, second part: the string loop, `lexString`, fragments (see Model/ParseLex.lean)

The compiled twin of the loop rests on `strStep_acc` (a step only appends to its accumulator), which
is read off the characterisation of a step in Lemmas/StrElem.lean: hence the import. A run of the loop
is followed along its iterations (`strLoopAux_induct`) or by an invariant of them (`strLoopAux_ok_inv`,
`strLoopAux_error_inv`).
-/
namespace JsonVerif

/-- the `loop` of the string scanner. Every iteration consumes at least one character
    (`strStep_len`), so the remaining input itself serves as fuel: the recursion is structural and
    the out-of-fuel branch is unreachable (`strLoopAux_np`). -/
def strLoopAux (o : ParseOptions) (bad : Bool) :
    List Char → List Char → Option (Nat × Nat) → List Char → Nat →
      Except PErr (List Char × List Char × Nat × Nat)
  | fuel, acc, high, l, pos =>
    match strStep o bad acc high l pos with
    | .done a r p q => .ok (a, r, p, q)
    | .err e => .error e
    | .more a hi r p =>
      match fuel with
      | [] => .error .panic
      | _ :: fuel' => strLoopAux o bad fuel' a hi r p

theorem strLoopAux_more {o : ParseOptions} {bad : Bool} {acc : List Char} {high : Option (Nat × Nat)}
    {l : List Char} {pos : Nat} {a : List Char} {hi : Option (Nat × Nat)} {r : List Char} {p : Nat}
    (hs : strStep o bad acc high l pos = .more a hi r p) (f : Char) (fuel : List Char) :
    strLoopAux o bad (f :: fuel) acc high l pos = strLoopAux o bad fuel a hi r p := by
  rw [strLoopAux, hs]

theorem strLoopAux_done {o bad acc high l pos a r p q}
    (hs : strStep o bad acc high l pos = .done a r p q) (fuel : List Char) :
    strLoopAux o bad fuel acc high l pos = .ok (a, r, p, q) := by
  rw [strLoopAux, hs]

theorem strLoopAux_err {o bad acc high l pos e} (hs : strStep o bad acc high l pos = .err e)
    (fuel : List Char) :
    strLoopAux o bad fuel acc high l pos = .error e := by
  rw [strLoopAux, hs]

theorem strLoopAux_fuel {o bad acc high l pos a hi r p}
    (hs : strStep o bad acc high l pos = .more a hi r p) :
    strLoopAux o bad [] acc high l pos = .error .panic := by
  rw [strLoopAux, hs]

/-- Induction along the iterations of the loop: the last one closes the string (`done`), fails (`err`)
    or finds the fuel used up (`fuel`); any other goes on (`more`). The four equations above say what
    the loop returns in each case. -/
theorem strLoopAux_induct {o : ParseOptions} {bad : Bool}
    {motive : List Char → List Char → Option (Nat × Nat) → List Char → Nat → Prop}
    (done : ∀ {fuel acc high l pos a r p q}, strStep o bad acc high l pos = .done a r p q →
      motive fuel acc high l pos)
    (err : ∀ {fuel acc high l pos e}, strStep o bad acc high l pos = .err e → motive fuel acc high l pos)
    (fuel : ∀ {acc high l pos a hi r p}, strStep o bad acc high l pos = .more a hi r p →
      motive [] acc high l pos)
    (more : ∀ {f fuel acc high l pos a hi r p}, strStep o bad acc high l pos = .more a hi r p →
      motive fuel a hi r p → motive (f :: fuel) acc high l pos)
    (fuel acc : List Char) (high : Option (Nat × Nat)) (l : List Char) (pos : Nat) :
    motive fuel acc high l pos := by
  fun_induction strLoopAux o bad fuel acc high l pos with
  | case1 _ _ _ _ _ _ _ _ _ hs => exact done hs
  | case2 _ _ _ _ _ _ hs => exact err hs
  | case3 _ _ _ _ _ _ _ _ hs => exact fuel hs
  | case4 _ _ _ _ _ _ _ _ hs _ _ ih => exact more hs ih

/-- A successful run of the loop, by an invariant `I` of the iterations (it may speak of the pending
    high surrogate, the unread input and the offset): every `more` keeps it, and what holds of the
    closing iteration holds of the result. `acc` is explicit in the premises because nothing else
    determines it where they are given as lambdas. -/
theorem strLoopAux_ok_inv {o : ParseOptions} {bad : Bool} {I : Option (Nat × Nat) → List Char → Nat → Prop}
    {Q : List Char → List Char → Nat → Nat → Prop}
    (more : ∀ {high l pos a hi r p} acc, I high l pos → strStep o bad acc high l pos = .more a hi r p → I hi r p)
    (done : ∀ {high l pos a r p q} acc, I high l pos → strStep o bad acc high l pos = .done a r p q → Q a r p q)
    {fuel acc : List Char} {high : Option (Nat × Nat)} {l : List Char} {pos : Nat} {a r : List Char} {p q : Nat}
    (h : strLoopAux o bad fuel acc high l pos = .ok (a, r, p, q)) (hI : I high l pos) : Q a r p q := by
  induction fuel, acc, high, l, pos using strLoopAux_induct (o := o) (bad := bad) with
  | done hs => rw [strLoopAux_done hs] at h; cases h; exact done _ hI hs
  | err hs => rw [strLoopAux_err hs] at h; cases h
  | fuel hs => rw [strLoopAux_fuel hs] at h; cases h
  | more hs ih => rw [strLoopAux_more hs] at h; exact ih h (more _ hI hs)

/-- The same for a failing run: what holds of the error of the failing iteration, and of the panic
    of a run out of fuel, holds of the error of the run. -/
theorem strLoopAux_error_inv {o : ParseOptions} {bad : Bool} {I : Option (Nat × Nat) → List Char → Nat → Prop}
    {Q : PErr → Prop}
    (more : ∀ {high l pos a hi r p} acc, I high l pos → strStep o bad acc high l pos = .more a hi r p → I hi r p)
    (err : ∀ {high l pos e} acc, I high l pos → strStep o bad acc high l pos = .err e → Q e)
    (panic : Q .panic)
    {fuel acc : List Char} {high : Option (Nat × Nat)} {l : List Char} {pos : Nat} {e : PErr}
    (h : strLoopAux o bad fuel acc high l pos = .error e) (hI : I high l pos) : Q e := by
  induction fuel, acc, high, l, pos using strLoopAux_induct (o := o) (bad := bad) with
  | done hs => rw [strLoopAux_done hs] at h; cases h
  | err hs => rw [strLoopAux_err hs] at h; cases h; exact err _ hI hs
  | fuel hs => rw [strLoopAux_fuel hs] at h; cases h; exact panic
  | more hs ih => rw [strLoopAux_more hs] at h; exact ih h (more _ hI hs)

/-! Compiled code runs `strLoopFast` in place of `strLoopAux` (`@[csimp]`): a step only appends to the
    accumulator, so the twin runs each step on the empty one and keeps what came before reversed. -/
def StrStep.prep (pre : List Char) : StrStep → StrStep
  | .done a r p q => .done (pre ++ a) r p q
  | .more a h r p => .more (pre ++ a) h r p
  | .err e => .err e

theorem strStep_acc (o : ParseOptions) (bad : Bool) (acc : List Char) (high : Option (Nat × Nat))
    (l : List Char) (pos : Nat) :
    strStep o bad acc high l pos = (strStep o bad [] high l pos).prep acc := by
  rcases scan_total l with ⟨w, _, e, rfl, hr⟩ | ⟨w, _, rfl, hs⟩
  · -- both sides are `Act.run` of the same entry of the table, and `Act.run` only appends to `acc`
    rw [strStep_reads hr, strStep_reads hr]
    cases onElem o high pos (pos + utf8Len w) e with
    | out cs hi fin => cases fin <;> simp [Act.run, StrStep.prep]
    | err x => rfl
  · rw [strStep_stuck hs, strStep_stuck hs]; rfl

def strLoopFast (o : ParseOptions) (bad : Bool) :
    List Char → List Char → Option (Nat × Nat) → List Char → Nat →
      Except PErr (List Char × List Char × Nat × Nat)
  | fuel, racc, high, l, pos =>
    match strStep o bad [] high l pos with
    | .done a r p q => .ok ((a.reverseAux racc).reverse, r, p, q)
    | .err e => .error e
    | .more a hi r p =>
      match fuel with
      | [] => .error .panic
      | _ :: fuel' => strLoopFast o bad fuel' (a.reverseAux racc) hi r p

theorem strLoopFast_eq (o : ParseOptions) (bad : Bool) (fuel racc : List Char) (high : Option (Nat × Nat))
    (l : List Char) (pos : Nat) :
    strLoopFast o bad fuel racc high l pos = strLoopAux o bad fuel racc.reverse high l pos := by
  -- the cases of `strLoopFast` are those of `strLoopAux_induct`: done, err, fuel, more
  fun_induction strLoopFast o bad fuel racc high l pos with
  | case1 _ racc _ _ _ a r p q hs =>
    rw [strLoopAux, strStep_acc, hs]
    simp only [StrStep.prep, List.reverseAux_eq, List.reverse_append, List.reverse_reverse]
  | case2 _ racc _ _ _ e hs => rw [strLoopAux, strStep_acc, hs]; rfl
  | case3 racc _ _ _ a hi r p hs => rw [strLoopAux, strStep_acc, hs]; rfl
  | case4 racc _ _ _ a hi r p hs _ fuel ih =>
    rw [strLoopAux, strStep_acc, hs, ih]
    simp only [StrStep.prep, List.reverseAux_eq, List.reverse_append, List.reverse_reverse]

def strLoopAuxImpl (o : ParseOptions) (bad : Bool) (fuel acc : List Char) (high : Option (Nat × Nat))
    (l : List Char) (pos : Nat) : Except PErr (List Char × List Char × Nat × Nat) :=
  strLoopFast o bad fuel acc.reverse high l pos

@[csimp] theorem strLoopAux_eq_impl : @strLoopAux = @strLoopAuxImpl := by
  funext o bad fuel acc high l pos
  simp [strLoopAuxImpl, strLoopFast_eq]

def strLoop (o : ParseOptions) (bad : Bool) (acc : List Char) (high : Option (Nat × Nat))
    (l : List Char) (pos : Nat) : Except PErr (List Char × List Char × Nat × Nat) :=
  strLoopAux o bad l acc high l pos

/-- `SmallString::parse_in` -/
def lexString (o : ParseOptions) (s : PS) : Except PErr (List Char × PS) :=
  let bf := s.beginFragment
  let i := bf.1
  let s0 := bf.2
  match s0.rest with
  | [] => .error s0.eofErr
  | d :: r =>
    if d = '"' then
      match strLoop o s0.bad [] none r (s0.pos + d.utf8Size) with
      | .error e => .error e
      | .ok (str, r', pos', _) =>
        match ({ s0 with rest := r', pos := pos' } : PS).endFragment i with
        | .error e => .error e
        | .ok s1 => .ok (str, s1)
    else .error (.unexpected s0.pos (some d))

/-! src/parse/value.rs, array.rs, object.rs -/

/-- `value::Fragment`. `i` is the code-map index of the container's fragment; in `beginObject`, `key` is
    the first key and `e` the index of the fragment of its ENTRY (key, colon and value), reserved
    before the key is read. -/
inductive Fragment where
  | value (v : JValue)
  | beginArray (i : Nat)
  | beginObject (i : Nat) (key : List Char) (e : Nat)

/-- first key of an object / next key after a comma: `begin_fragment`, key, ws, `:`. The index returned
    is that of the entry's fragment (Rust `let e = begin_fragment()`; the `e` of `Fragment.beginObject` and
    `ObjCont.entry`); `lexString` reserves a second fragment for the key itself. -/
def lexKeyColon (o : ParseOptions) (s : PS) : Except PErr (List Char × Nat × PS) :=
  let bf := s.beginFragment
  let i := bf.1
  let s0 := bf.2
  match lexString o s0 with
  | .error e => .error e
  | .ok (key, s1) =>
    match skipWs s1 with
    | .error e => .error e
    | .ok s2 =>
      match expectChar ':' s2 with
      | .error e => .error e
      | .ok s3 => .ok (key, i, s3)

/-- `array::StartFragment::parse_in` (the caller has peeked `[`). The end of the input after `[ ws` is
    not an error here (Rust's `_ =>` arm: wait for a value); the next `parseFragment` raises it. -/
def startArray (s : PS) : Except PErr (Fragment × PS) :=
  let bf := s.beginFragment
  let i := bf.1
  let s0 := bf.2
  match expectChar '[' s0 with
  | .error e => .error e
  | .ok s1 =>
    match skipWs s1 with
    | .error e => .error e
    | .ok s2 =>
      match s2.rest with
      | d :: r =>
        if d = ']' then
          match (s2.adv d r).endFragment i with
          | .error e => .error e
          | .ok s3 => .ok (.value (.array []), s3)
        else .ok (.beginArray i, s2)
      | [] => .ok (.beginArray i, s2)

/-- the `_ => { let e = begin_fragment(); let key = …; … ':' … NonEmpty }` arm -/
def startObjectKey (o : ParseOptions) (i : Nat) (s : PS) : Except PErr (Fragment × PS) :=
  match lexKeyColon o s with
  | .error e => .error e
  | .ok (key, e, s3) => .ok (.beginObject i key e, s3)

/-- `object::StartFragment::parse_in` (the caller has peeked `{`) -/
def startObject (o : ParseOptions) (s : PS) : Except PErr (Fragment × PS) :=
  let bf := s.beginFragment
  let i := bf.1
  let s0 := bf.2
  match expectChar '{' s0 with
  | .error e => .error e
  | .ok s1 =>
    match skipWs s1 with
    | .error e => .error e
    | .ok s2 =>
      match s2.rest with
      | d :: r =>
        if d = '}' then
          match (s2.adv d r).endFragment i with
          | .error e => .error e
          | .ok s3 => .ok (.value (.object []), s3)
        else startObjectKey o i s2
      | [] => startObjectKey o i s2

/-- `Fragment::parse_in` -/
def parseFragment (o : ParseOptions) (ctx : Ctx) (s : PS) : Except PErr (Fragment × PS) :=
  match skipWs s with
  | .error e => .error e
  | .ok s =>
    match s.rest with
    | [] => .error s.eofErr
    | c :: _ =>
      if c = 'n' then
        match lexNull s with
        | .error e => .error e
        | .ok s1 => .ok (.value .null, s1)
      else if c = 't' || c = 'f' then
        match lexBool s with
        | .error e => .error e
        | .ok (b, s1) => .ok (.value (.bool b), s1)
      else if isDigit c || c = '-' then
        match lexNumber ctx s with
        | .error e => .error e
        | .ok (n, s1) => .ok (.value (.number n), s1)
      else if c = '"' then
        match lexString o s with
        | .error e => .error e
        | .ok (str, s1) => .ok (.value (.string str), s1)
      else if c = '[' then startArray s
      else if c = '{' then startObject o s
      else .error (.unexpected s.pos (some c))

inductive ArrCont | item | end_

inductive ObjCont where
  | entry (key : List Char) (e : Nat)
  | end_

/-- `array::ContinueFragment::parse_in` -/
def contArray (i : Nat) (s : PS) : Except PErr (ArrCont × PS) :=
  match skipWs s with
  | .error e => .error e
  | .ok s =>
    match s.rest with
    | [] => .error s.eofErr
    | d :: r =>
      if d = ',' then .ok (.item, s.adv d r)
      else if d = ']' then
        match (s.adv d r).endFragment i with
        | .error e => .error e
        | .ok s1 => .ok (.end_, s1)
      else .error (.unexpected s.pos (some d))

/-- `object::ContinueFragment::parse_in` -/
def contObject (o : ParseOptions) (i : Nat) (s : PS) : Except PErr (ObjCont × PS) :=
  match skipWs s with
  | .error e => .error e
  | .ok s =>
    match s.rest with
    | [] => .error s.eofErr
    | d :: r =>
      if d = ',' then
        match skipWs (s.adv d r) with
        | .error e => .error e
        | .ok s1 =>
          match lexKeyColon o s1 with
          | .error e => .error e
          | .ok (key, e, s2) => .ok (.entry key e, s2)
      else if d = '}' then
        match (s.adv d r).endFragment i with
        | .error e => .error e
        | .ok s1 => .ok (.end_, s1)
      else .error (.unexpected s.pos (some d))

end JsonVerif
