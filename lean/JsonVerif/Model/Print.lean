import JsonVerif.Model.PrintBasic
/-!
# Printer model (src/print/mod.rs), as the code is written

Two phases, like the code: `pre` (`PrecomputeSize::pre_compute_size`: one `Size` per container,
in pre-order — the functional reading of "push a placeholder, recurse, patch") and `emit`
(`PrintWithSize::fmt_with_size`: consumes the sizes in the same pre-order through `sizes[*index]`;
`none` = the indexing panicked).
-/
namespace JsonVerif

def Size.add : Size → Size → Size
  | .width a, .width b => .width (a + b)
  | _, _ => .expanded

/-- `Spaces(n)` -/
def spaces (n : Nat) : List Char := List.replicate n ' '

/-- `Indent` displayed once -/
def Indent.unit : Indent → List Char
  | .spaces n => List.replicate n ' '
  | .tabs n => List.replicate n '\t'

/-- `options.indent.by(n)` -/
def indentBy (o : PrintOptions) (n : Nat) : List Char := (List.replicate n o.indent.unit).flatten

/-- `digit` (lower-case hex): 48 = `'0'`, 87 = `'a'` − 10 -/
def hexDigitLower (n : Nat) : Char :=
  if n < 10 then Char.ofNat (48 + n) else Char.ofNat (87 + n)

/-- one character of `string_literal` -/
def escapeChar (c : Char) : List Char :=
  if c = '\\' then ['\\', '\\']
  else if c = '"' then ['\\', '"']
  else if c = Char.ofNat 8 then ['\\', 'b']
  else if c = Char.ofNat 9 then ['\\', 't']
  else if c = Char.ofNat 10 then ['\\', 'n']
  else if c = Char.ofNat 12 then ['\\', 'f']
  else if c = Char.ofNat 13 then ['\\', 'r']
  else if c.toNat ≤ 0x1f then
    ['\\', 'u', hexDigitLower ((c.toNat / 4096) % 16), hexDigitLower ((c.toNat / 256) % 16),
      hexDigitLower ((c.toNat / 16) % 16), hexDigitLower (c.toNat % 16)]
  else [c]

/-- `string_literal` -/
def stringLiteral (s : List Char) : List Char := '"' :: s.flatMap escapeChar ++ ['"']

/-- per-character width of `printed_string_size` -/
def escapeWidth (c : Char) : Nat :=
  if c = '\\' || c = '"' || c = Char.ofNat 8 || c = Char.ofNat 9 || c = Char.ofNat 10 ||
     c = Char.ofNat 12 || c = Char.ofNat 13 then 2
  else if c.toNat ≤ 0x1f then 6
  else 1

/-- `printed_string_size` -/
def printedStringSize (s : List Char) : Nat := 2 + (s.map escapeWidth).sum

/-- the `match options.*_limit { … }` at the end of both pre-computations -/
def applyLimit (lim : Option Limit) (len : Nat) : Size → Size
  | .expanded => .expanded
  | .width w => match lim with
    | none => .width w
    | some .always => .expanded
    | some (.item i) => if len > i then .expanded else .width w
    | some (.itemOrWidth i ww) => if len > i ∨ w > ww then .expanded else .width w
    | some (.width ww) => if w > ww then .expanded else .width w

-- `pre_compute_size`: own size, and the sizes pushed for the subtree in push order
mutual
def pre (o : PrintOptions) : JValue → Size × List Size
  | .null => (.width 4, [])
  | .bool b => (.width (if b then 4 else 5), [])
  | .number n => (.width n.length, [])
  | .string s => (.width (printedStringSize s), [])
  | .array xs =>
    let r := preL o xs 0 (.width (2 + o.arrayBegin + o.arrayEnd))
    let sz := if xs.isEmpty then Size.width (2 + o.arrayEmpty) else r.1
    let own := applyLimit o.arrayLimit xs.length sz
    (own, own :: r.2)
  | .object es =>
    let r := preM o es 0 (.width (2 + o.objectBegin + o.objectEnd))
    let sz := if es.isEmpty then Size.width (2 + o.objectEmpty) else r.1
    let own := applyLimit o.objectLimit es.length sz
    (own, own :: r.2)
def preL (o : PrintOptions) : List JValue → Nat → Size → Size × List Size
  | [], _, acc => (acc, [])
  | x :: xs, i, acc =>
    let acc := if i > 0 then acc.add (.width (1 + o.arrayBeforeComma + o.arrayAfterComma)) else acc
    let px := pre o x
    let r := preL o xs (i + 1) (acc.add px.1)
    (r.1, px.2 ++ r.2)
def preM (o : PrintOptions) : List (List Char × JValue) → Nat → Size → Size × List Size
  | [], _, acc => (acc, [])
  | (k, x) :: es, i, acc =>
    let acc := if i > 0 then acc.add (.width (1 + o.objectBeforeComma + o.objectAfterComma)) else acc
    let acc := acc.add (.width (printedStringSize k + 1 + o.objectBeforeColon + o.objectAfterColon))
    let px := pre o x
    let r := preM o es (i + 1) (acc.add px.1)
    (r.1, px.2 ++ r.2)
end

def boolText (b : Bool) : List Char := if b then ['t', 'r', 'u', 'e'] else ['f', 'a', 'l', 's', 'e']
def nullText : List Char := ['n', 'u', 'l', 'l']

-- `fmt_with_size` / `print_array` / `print_object`
mutual
def emit (o : PrintOptions) (ind : Nat) : JValue → List Size → Option (List Char × List Size)
  | .null, ss => some (nullText, ss)
  | .bool b, ss => some (boolText b, ss)
  | .number n, ss => some (n, ss)
  | .string s, ss => some (stringLiteral s, ss)
  | .array xs, ss =>
    match ss with
    | [] => none                                        -- `sizes[*index]` out of bounds
    | sz :: ss =>
      if xs.isEmpty then
        match sz with
        | .expanded => some ('[' :: '\n' :: indentBy o ind ++ [']'], ss)
        | .width _ => some ('[' :: spaces o.arrayEmpty ++ [']'], ss)
      else match sz with
        | .expanded =>
          match emitL o ind true xs 0 ss with
          | none => none
          | some (t, ss') => some ('[' :: '\n' :: t ++ '\n' :: indentBy o ind ++ [']'], ss')
        | .width _ =>
          match emitL o ind false xs 0 ss with
          | none => none
          | some (t, ss') => some ('[' :: spaces o.arrayBegin ++ t ++ spaces o.arrayEnd ++ [']'], ss')
  | .object es, ss =>
    match ss with
    | [] => none
    | sz :: ss =>
      if es.isEmpty then
        match sz with
        | .expanded => some ('{' :: '\n' :: indentBy o ind ++ ['}'], ss)
        | .width _ => some ('{' :: spaces o.objectEmpty ++ ['}'], ss)
      else match sz with
        | .expanded =>
          match emitM o ind true es 0 ss with
          | none => none
          | some (t, ss') => some ('{' :: '\n' :: t ++ '\n' :: indentBy o ind ++ ['}'], ss')
        | .width _ =>
          match emitM o ind false es 0 ss with
          | none => none
          | some (t, ss') => some ('{' :: spaces o.objectBegin ++ t ++ spaces o.objectEnd ++ ['}'], ss')
def emitL (o : PrintOptions) (ind : Nat) (expanded : Bool) :
    List JValue → Nat → List Size → Option (List Char × List Size)
  | [], _, ss => some ([], ss)
  | x :: xs, i, ss =>
    let sep : List Char :=
      if i > 0 then
        (if expanded then spaces o.arrayBeforeComma ++ [',', '\n']
         else spaces o.arrayBeforeComma ++ ',' :: spaces o.arrayAfterComma)
      else []
    let lead : List Char := if expanded then indentBy o (ind + 1) else []
    match emit o (ind + 1) x ss with
    | none => none
    | some (tx, ss1) =>
      match emitL o ind expanded xs (i + 1) ss1 with
      | none => none
      | some (t, ss2) => some (sep ++ lead ++ tx ++ t, ss2)
def emitM (o : PrintOptions) (ind : Nat) (expanded : Bool) :
    List (List Char × JValue) → Nat → List Size → Option (List Char × List Size)
  | [], _, ss => some ([], ss)
  | (k, x) :: es, i, ss =>
    let sep : List Char :=
      if i > 0 then
        (if expanded then spaces o.objectBeforeComma ++ [',', '\n']
         else spaces o.objectBeforeComma ++ ',' :: spaces o.objectAfterComma)
      else []
    let lead : List Char := if expanded then indentBy o (ind + 1) else []
    let key : List Char :=
      stringLiteral k ++ spaces o.objectBeforeColon ++ ':' :: spaces o.objectAfterColon
    match emit o (ind + 1) x ss with
    | none => none
    | some (tx, ss1) =>
      match emitM o ind expanded es (i + 1) ss1 with
      | none => none
      | some (t, ss2) => some (sep ++ lead ++ key ++ tx ++ t, ss2)
end

/-- `impl Print for Value`: `fmt_with(f, options, indent)`; `none` = a panic in `sizes[*index]`. -/
def printWith (o : PrintOptions) (ind : Nat) (v : JValue) : Option (List Char) :=
  match emit o ind v (pre o v).2 with
  | some (t, _) => some t
  | none => none

end JsonVerif
