import JsonVerif.Lemmas.Adv
/-!
# Every lexical function that succeeds consumes input

The termination argument of the machine, i.e. the totality half of C03: `run`'s `decreasing_by`
(Model/Machine.lean) uses `parseFragment_len`, `contArray_len`, `contObject_len`, which is why this
file of lemmas sits among the model files.
-/
namespace JsonVerif

theorem skipWs_len {s s' : PS} (h : skipWs s = .ok s') : s'.rest.length ≤ s.rest.length :=
  (skipWs_adv h).len

@[simp] theorem beginFragment_rest (s : PS) : s.reserve.rest = s.rest := rfl
@[simp] theorem beginFragment_bad (s : PS) : s.reserve.bad = s.bad := rfl
@[simp] theorem beginFragment_pos (s : PS) : s.reserve.pos = s.pos := rfl

theorem endFragment_len {s : PS} {i : Nat} {s' : PS} (h : s.endFragment i = .ok s') :
    s'.rest.length = s.rest.length := by rw [(endFragment_rest h).1]

theorem numLoop_init_len {ctx : Ctx} {buf l : List Char} {pos : Nat}
    {st' : NumState} {buf' r : List Char} {pos' : Nat}
    (h : numLoop ctx .init buf l pos = .ok (st', buf', r, pos')) (ha : st'.accepting = true) :
    r.length < l.length := by
  obtain ⟨_, rfl, hr, _⟩ := numLoop_ok_inv h
  cases hr with
  | nil => cases ha
  | cons => simp only [List.cons_append, List.length_cons, List.length_append]; omega

theorem strStep_len {o bad acc high l pos a hi r p}
    (h : strStep o bad acc high l pos = .more a hi r p) : r.length < l.length := by
  obtain ⟨_, _, _, hr, rfl, _⟩ := strStep_more_inv h
  have := List.length_pos_iff.mpr hr.ne_nil
  rw [List.length_append]
  omega

/-- fuel for the input before an iteration is one more than fuel for the input after it -/
theorem strStep_fuel {o bad acc high l pos a hi r p} (hs : strStep o bad acc high l pos = .more a hi r p)
    {fuel : List Char} (hf : l.length ≤ fuel.length) :
    ∃ f fuel', fuel = f :: fuel' ∧ r.length ≤ fuel'.length := by
  have := strStep_len hs
  cases fuel with
  | nil => simp only [List.length_nil] at hf; omega
  | cons f fuel' => exact ⟨f, fuel', rfl, by simp only [List.length_cons] at hf; omega⟩

theorem strLoopAux_len {o : ParseOptions} {bad : Bool} (fuel : List Char)
    {acc : List Char} {high : Option (Nat × Nat)} {l : List Char} {pos : Nat} {a r : List Char} {p q : Nat}
    (h : strLoopAux o bad fuel acc high l pos = .ok (a, r, p, q)) : r.length < l.length :=
  strLoopAux_ok_inv (I := fun _ l' _ => l'.length ≤ l.length) (Q := fun _ r _ _ => r.length < l.length)
    (fun _ hI hs => Nat.le_of_lt (Nat.lt_of_lt_of_le (strStep_len hs) hI))
    -- the closing quote makes it strict: `('"' :: r).length ≤ n` is `r.length < n` by unfolding
    (fun _ hI hs => by rw [(strStep_done_inv hs).1] at hI; exact hI) h (Nat.le_refl _)

/-! `Eats n m s`: started in `s`, a successful run of `m` consumes at least `n` characters. The machine
    needs `1` of the three fragment lexers; the larger bounds of `lexString` (the two quotes) and
    `lexKeyColon` (and the colon) are what the rules give and are weakened where they are used. -/

open Lex

def Eats (n : Nat) (m : Lex α) (s : PS) : Prop :=
  ∀ ⦃a s'⦄, m s = .ok (a, s') → s'.rest.length + n ≤ s.rest.length

namespace Eats
variable {α β : Type} {n k : Nat} {s : PS}

theorem mono {m : Lex α} (hm : Eats n m s) (h : k ≤ n) : Eats k m s :=
  fun _ _ hh => Nat.le_trans (Nat.add_le_add_left h _) (hm hh)

theorem pure {a : α} : Eats 0 (Lex.pure a) s := fun _ _ h => by cases h; exact Nat.le_refl _

theorem bind {m : Lex α} {f : α → Lex β} (hm : Eats n m s) (hf : ∀ a s1, Eats k (f a) s1) :
    Eats (n + k) (Lex.bind m f) s := fun _ _ h => by
  obtain ⟨a, s1, h1, h2⟩ := Lex.bind_ok.1 h
  have := hm h1; have := hf a s1 h2
  omega

theorem ite {c : Prop} [Decidable c] {a b : Lex α} (ha : Eats n a s) (hb : Eats n b s) :
    Eats n (if c then a else b) s := by
  split <;> assumption

/-- the continuation may use that there is a next character: `next` then consumes it -/
theorem peekC {f : Char → Lex α} (hf : ∀ c x, s.rest = c :: x → Eats n (f c) s) : Eats n (Lex.peekC f) s :=
  fun _ _ h => by obtain ⟨c, x, hr, h⟩ := peekC_ok.1 h; exact hf c x hr h

theorem peek {f : Option Char → Lex α} (hf : ∀ c, Eats n (f c) s) : Eats n (Lex.peek f) s :=
  fun _ _ h => hf _ h

theorem unexpectedHere : Eats n (Lex.unexpectedHere : Lex α) s := fun _ _ h => nomatch h

theorem next {c : Char} {x : List Char} (hr : s.rest = c :: x) : Eats 1 Lex.next s := fun _ _ h => by
  cases (next_ok hr).1 h; simp [PS.adv, hr]

/-- without the character looked at: after `peek` the programs know it only through the condition of
    the `if` that follows, and `startArray` / `startObject` need no more than this of their `next` -/
theorem next0 : Eats 0 Lex.next s := fun _ _ h => by
  unfold Lex.next at h
  split at h
  · cases h; exact Nat.le_refl _
  · rename_i hr; cases h; simp [PS.adv, hr]

theorem reserve : Eats 0 Lex.reserve s := fun _ _ h => by cases h; exact Nat.le_refl _

theorem lift {f : PS → Except PErr PS} (hf : ∀ s', f s = .ok s' → s'.rest.length + n ≤ s.rest.length) :
    Eats n (Lex.lift f) s := fun _ _ h => hf _ (lift_ok.1 h)

theorem raw {f : Bool → List Char → Nat → Except PErr (α × List Char × Nat)}
    (hf : ∀ a r p, f s.bad s.rest s.pos = .ok (a, r, p) → r.length + n ≤ s.rest.length) :
    Eats n (Lex.raw f) s := fun _ _ h => by obtain ⟨r, p, h1, rfl⟩ := raw_ok.1 h; exact hf _ r p h1

theorem skipWs : Eats 0 (Lex.lift skipWs) s := .lift fun _ h => skipWs_len h

theorem expectChar (c : Char) : Eats 1 (Lex.lift (expectChar c)) s :=
  expectChar_eq c ▸ .peekC fun _ _ hr => .ite (.next hr) .unexpectedHere

theorem expectChars : ∀ (cs : List Char) {s : PS}, Eats cs.length (Lex.lift (expectChars cs)) s
  | [], _ => .pure
  | c :: cs, _ => expectChars_cons c cs ▸
    (Eats.bind (.expectChar c) fun _ _ => expectChars cs).mono (by simp [Nat.add_comm])

theorem endFragment (i : Nat) : Eats 0 (Lex.lift (·.endFragment i)) s :=
  .lift fun _ h => Nat.le_of_eq (endFragment_len h)

/-- a number has at least one character: the loop starts in a state that is not accepting -/
theorem numScan (ctx : Ctx) : Eats 1 (Lex.raw (numScan ctx)) s := .raw fun _ _ _ h => by
  obtain ⟨_, hv, _, ha⟩ := numScan_ok.1 h
  exact numLoop_init_len hv ha

theorem strScan (o : ParseOptions) : Eats 1 (Lex.raw (strScan o)) s := .raw fun _ _ _ h => by
  obtain ⟨_, hv⟩ := strScan_ok.1 h
  exact strLoopAux_len _ hv

theorem close (i : Nat) (a : α) : Eats 0 (Lex.close i a) s := Eats.bind (.endFragment i) fun _ _ => .pure

theorem literal {cs : List Char} (h : 1 ≤ cs.length) (i : Nat) (a : α) : Eats 1 (Lex.literal cs i a) s :=
  (Eats.bind (.expectChars cs) fun _ _ => .close i a).mono h

theorem closer {c : Char} {x : List Char} (hr : s.rest = c :: x) (i : Nat) (a : α) :
    Eats 1 (Lex.closer i a) s := Eats.bind (.next hr) fun _ _ => .close i a

theorem opener {c d : Char} {v : α} {f : Nat → Lex α} (hf : ∀ i s1, Eats 0 (f i) s1) :
    Eats 1 (Lex.opener c d v f) s :=
  Eats.bind .reserve fun _ _ => .bind (.expectChar c) fun _ _ => .bind .skipWs fun _ _ => .peek fun _ =>
    .ite (Eats.bind .next0 fun _ _ => .close _ v) (hf _ _)

theorem lexNull : Eats 1 (Lex.lift lexNull) s := lexNull_eq ▸
  (Eats.bind .reserve fun _ _ => .literal (by decide) _ ())

theorem lexBool : Eats 1 lexBool s := lexBool_eq ▸
  (Eats.bind .reserve fun _ _ => .peekC fun _ _ _ =>
    .ite (.literal (by decide) _ _) <| .ite (.literal (by decide) _ _) .unexpectedHere)

theorem lexNumber (ctx : Ctx) : Eats 1 (lexNumber ctx) s := lexNumber_eq ctx ▸
  (Eats.bind .reserve fun _ _ => .bind (.numScan ctx) fun _ _ => .close _ _)

theorem lexString (o : ParseOptions) : Eats 2 (lexString o) s := lexString_eq o ▸
  (Eats.bind .reserve fun _ _ => .peekC fun _ _ hr =>
    .ite (Eats.bind (.next hr) fun _ _ => .bind (.strScan o) fun _ _ => .close _ _) .unexpectedHere)

theorem lexKeyColon (o : ParseOptions) : Eats 3 (ofTriple (lexKeyColon o)) s := lexKeyColon_eq o ▸
  (Eats.bind .reserve fun _ _ => .bind (.lexString o) fun _ _ => .bind .skipWs fun _ _ =>
    .bind (.expectChar _) fun _ _ => .pure)

theorem startArray : Eats 1 startArray s := startArray_eq ▸ .opener fun _ _ => .pure

theorem startObjectKey (o : ParseOptions) (i : Nat) : Eats 3 (startObjectKey o i) s := startObjectKey_eq o i ▸
  (Eats.bind (.lexKeyColon o) fun _ _ => .pure)

theorem startObject (o : ParseOptions) : Eats 1 (startObject o) s :=
  startObject_eq o ▸ .opener fun _ _ => (Eats.startObjectKey o _).mono (Nat.zero_le _)

theorem parseFragment (o : ParseOptions) (ctx : Ctx) : Eats 1 (parseFragment o ctx) s :=
  parseFragment_eq o ctx ▸
  (Eats.bind .skipWs fun _ _ => .peekC fun _ _ _ =>
    .ite (Eats.bind .lexNull fun _ _ => .pure) <| .ite (Eats.bind .lexBool fun _ _ => .pure) <|
    .ite (Eats.bind (.lexNumber ctx) fun _ _ => .pure) <|
    .ite (Eats.bind ((Eats.lexString o).mono (by decide)) fun _ _ => .pure) <|
    .ite .startArray <| .ite (.startObject o) .unexpectedHere)

theorem contArray (i : Nat) : Eats 1 (contArray i) s := contArray_eq i ▸
  (Eats.bind .skipWs fun _ _ => .peekC fun _ _ hr =>
    .ite (Eats.bind (.next hr) fun _ _ => .pure) <| .ite (.closer hr i _) .unexpectedHere)

theorem contObject (o : ParseOptions) (i : Nat) : Eats 1 (contObject o i) s := contObject_eq o i ▸
  (Eats.bind .skipWs fun _ _ => .peekC fun _ _ hr =>
    -- comma, whitespace, key and colon give `1 + (0 + (3 + 0))`; `1` is wanted
    .ite (.mono (Eats.bind (.next hr) fun _ _ => .bind .skipWs fun _ _ =>
      .bind (.lexKeyColon o) fun _ _ => .pure) (by decide)) <|
    .ite (.closer hr i _) .unexpectedHere)

end Eats

/-! `Eats 1 m s` is `_ + 1 ≤ _`, which unfolds to the `<` that `run`'s `decreasing_by` wants. -/

theorem parseFragment_len {o : ParseOptions} {ctx : Ctx} {s : PS} {f : Fragment} {s' : PS}
    (h : parseFragment o ctx s = .ok (f, s')) : s'.rest.length < s.rest.length := Eats.parseFragment o ctx h

theorem contArray_len {i : Nat} {s : PS} {c : ArrCont} {s' : PS}
    (h : contArray i s = .ok (c, s')) : s'.rest.length < s.rest.length := Eats.contArray i h

theorem contObject_len {o : ParseOptions} {i : Nat} {s : PS} {c : ObjCont} {s' : PS}
    (h : contObject o i s = .ok (c, s')) : s'.rest.length < s.rest.length := Eats.contObject o i h

end JsonVerif
