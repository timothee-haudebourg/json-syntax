import JsonVerif.Model.Serde
/-!
# Model of the serde deserializer (src/serde/de.rs)

`impl Deserializer for Value`, `MapKeyDeserializer`, `EnumDeserializer` / `VariantDeserializer`,
the `visit_array` / `visit_object` length checks, and `impl Deserialize for Value` (`ValueVisitor`).

A Rust type is represented by a **type descriptor** `DTy`: which `deserialize_*` request its
`Deserialize` implementation makes and what its visitor accepts (serde's implementations for the
primitive types, `Option`, `Vec`, tuples, `BTreeMap`, and serde-derive's generated visitors for
structs and externally tagged enums). The harness drives the real `Value` deserializer with a
descriptor-interpreting client (harness/src/probe.rs), so that arbitrary descriptors — not a fixed
family of Rust types — exercise every entry point; the same client is compared with real
`#[derive(Deserialize)]` types.

The result of deserialization is the datum in `SData` notation (the notation of the serializer's
input), so that the round trip `de ty (ser d) = d` can be stated directly.

Numbers reach a visitor through `visit_number` (src/serde/de.rs): `visit_u64` if the text parses as
u64, else `visit_i64` if it parses as i64, else `visit_f64(str::parse::<f64>)`. A float datum is
identified by the number text it was read from / written as (the float conversions are opaque).
-/
namespace JsonVerif

inductive DeErr
  | invalidType | invalidValue | invalidLength | missingField | duplicateField | unknownVariant
  | custom
deriving Repr, DecidableEq

/-- the eight integer types with a dedicated `deserialize_*` entry point (8–64 bit) -/
inductive IntW | i8 | i16 | i32 | i64 | u8 | u16 | u32 | u64
deriving Repr, DecidableEq

def IntW.signed : IntW → Bool
  | .i8 | .i16 | .i32 | .i64 => true
  | _ => false
def IntW.lo : IntW → Int
  | .i8 => -128 | .i16 => -32768 | .i32 => -2147483648 | .i64 => -9223372036854775808
  | _ => 0
def IntW.hi : IntW → Int
  | .i8 => 127 | .i16 => 32767 | .i32 => 2147483647 | .i64 => 9223372036854775807
  | .u8 => 255 | .u16 => 65535 | .u32 => 4294967295 | .u64 => 18446744073709551615

/-- the datum an integer visitor of width `w` builds from an in-range integer -/
def IntW.mk (w : IntW) (i : Int) : SData := if w.signed then .int i else .uint i.toNat

/-- key types of maps -/
inductive KTy
  | str | int (w : IntW) | char
  | unitEnum (names : List (List Char))
  | newtype (k : KTy)
deriving Repr

/-- type descriptors. In the payload position of an `enum` variant: `unit` = unit variant,
    `newtype t` = newtype variant holding a `t`, `tuple ts` = tuple variant, `struct fs` = struct
    variant. -/
inductive DTy
  | bool | int (w : IntW) | f32 | f64 | char | str | unit | unitStruct
  | opt (t : DTy) | newtype (t : DTy) | seq (t : DTy)
  | tuple (ts : List DTy)
  | map (k : KTy) (t : DTy)
  | struct (fs : List (List Char × DTy))
  | enum (vs : List (List Char × DTy))
deriving Inhabited

/-- what `visit_number` calls on the visitor -/
inductive NumEv | u64 (u : Nat) | i64 (i : Int) | f64
deriving Repr, DecidableEq

def numEvent (n : List Char) : NumEv :=
  match asU64 n with
  | some u => .u64 u
  | none => match asI64 n with
    | some i => .i64 i
    | none => .f64

/-- serde's primitive integer visitors: any integer visit that fits the type -/
def intVisit (w : IntW) (n : List Char) : Except DeErr SData :=
  match numEvent n with
  | .u64 u => if (u : Int) ≤ w.hi then .ok (w.mk u) else .error .invalidValue
  | .i64 i => if w.lo ≤ i ∧ i ≤ w.hi then .ok (w.mk i) else .error .invalidValue
  | .f64 => .error .invalidType

/-- Rust's `str::parse::<uN/iN>()` (`from_str_radix(_, 10)`): an optional sign (`-` only for the
    signed types), then one or more ASCII digits; no other character, no overflow -/
def parseNatR (cs : List Char) : Option Nat :=
  if !cs.isEmpty && cs.all Char.isDigit then some (Nat.ofDigitChars 10 cs 0) else none
def parseIntR (signed : Bool) : List Char → Option Int
  | '+' :: r => (parseNatR r).map Int.ofNat
  | '-' :: r => if signed then (parseNatR r).map (fun n => -Int.ofNat n) else none
  | cs => (parseNatR cs).map Int.ofNat
def parseKeyInt (w : IntW) (k : List Char) : Option Int :=
  match parseIntR w.signed k with
  | some i => if w.lo ≤ i ∧ i ≤ w.hi then some i else none
  | none => none

/-- `MapKeyDeserializer` seen by the key type's `Deserialize` implementation -/
def deKey : KTy → List Char → Except DeErr SData
  | .str, k => .ok (.str k)                          -- deserialize_string → visit_string
  | .int w, k =>                                     -- deserialize_iN: parse, else visit_string
    match parseKeyInt w k with
    | some i => .ok (w.mk i)
    | none => .error .invalidType
  | .char, k =>                                      -- deserialize_char → visit_string
    match k with
    | [c] => .ok (.char c)
    | _ => .error .invalidValue
  | .unitEnum names, k =>                            -- deserialize_enum on the key text
    if names.contains k then .ok (.unitVariant k) else .error .unknownVariant
  | .newtype t, k =>                                 -- visit_newtype_struct(self)
    match deKey t k with
    | .ok d => .ok (.newtypeStruct d)
    | .error e => .error e

/-- the float conversions of the dependencies as a parameter: `f64 n` (`f32 n`) = the text of
    `NumberBuf::try_from` of the double (float) that `visit_number` hands to a
    float visitor for the number text `n`; `none` when that value is not finite. A float datum is
    identified by that text, as on the serializer's side. -/
structure FEnv where
  f32 : List Char → Option (List Char)
  f64 : List Char → Option (List Char)

/-- run `f` over the list, stopping at the first error -/
def mapE {α β : Type} (f : α → Except DeErr β) : List α → Except DeErr (List β)
  | [] => .ok []
  | x :: xs =>
    match f x with
    | .error e => .error e
    | .ok y =>
      match mapE f xs with
      | .error e => .error e
      | .ok ys => .ok (y :: ys)

/-- one map entry: `next_key_seed` then `next_value_seed` (`f` = the value type's deserializer) -/
def deEntry (k : KTy) (f : JValue → Except DeErr SData) (e : List Char × JValue) :
    Except DeErr (SData × SData) :=
  match deKey k e.1 with
  | .error err => .error err
  | .ok kd => match f e.2 with
    | .error err => .error err
    | .ok d => .ok (kd, d)

/-- serde-derive's `visit_map` for a struct: one slot per field; a key that names no field is
    skipped (`IgnoredAny`), a second value for a filled slot is `duplicate_field` (detected before
    the value is looked at). `look k x` = index of the field named `k` and the result of
    deserializing `x` at that field's type. -/
def fillSlots (look : List Char → JValue → Option (Nat × Except DeErr SData)) :
    List (List Char × JValue) → List (Option SData) → Except DeErr (List (Option SData))
  | [], slots => .ok slots
  | (k, x) :: es, slots =>
    match look k x with
    | none => fillSlots look es slots
    | some (i, r) =>
      match slots[i]? with
      | some (some _) => .error .duplicateField
      | _ =>
        match r with
        | .error e => .error e
        | .ok d => fillSlots look es (slots.set i (some d))

/-- after the loop: an unfilled slot is `missing_field`, which is `None` for an `Option` field -/
def closeSlots : List (List Char × DTy) → List (Option SData) → Except DeErr (List (List Char × SData))
  | [], _ => .ok []
  | (n, t) :: fs, slots =>
    let this : Except DeErr SData :=
      match slots.head? with
      | some (some d) => .ok d
      | _ => match t with
        | .opt _ => .ok .none
        | _ => .error .missingField
    match this with
    | .error e => .error e
    | .ok d =>
      match closeSlots fs slots.tail with
      | .error e => .error e
      | .ok l => .ok ((n, d) :: l)

/-- the result of a visitor that pulled elements from a `SeqAccess`: the data built and the elements
    left (`visit_array` fails with `invalid_length` when some are left) -/
def seqDone {α : Type} (r : Except DeErr (α × List JValue)) (mk : α → SData) : Except DeErr SData :=
  match r with
  | .error e => .error e
  | .ok (a, rest) => if rest.isEmpty then .ok (mk a) else .error .invalidLength

mutual
/-- `T::deserialize(value)` for the type described by the descriptor -/
def de (env : FEnv) : DTy → JValue → Except DeErr SData
  | .bool, v => (match v with | .bool b => .ok (.bool b) | _ => .error .invalidType)
  | .int w, v => (match v with | .number n => intVisit w n | _ => .error .invalidType)
  | .f32, v => (match v with | .number n => .ok (.float (env.f32 n)) | _ => .error .invalidType)
  | .f64, v => (match v with | .number n => .ok (.float (env.f64 n)) | _ => .error .invalidType)
  | .char, v =>
    (match v with
     | .string [c] => .ok (.char c)
     | .string _ => .error .invalidValue
     | _ => .error .invalidType)
  | .str, v => (match v with | .string s => .ok (.str s) | _ => .error .invalidType)
  | .unit, v => (match v with | .null => .ok .unit | _ => .error .invalidType)
  | .unitStruct, v => (match v with | .null => .ok .unitStruct | _ => .error .invalidType)
  | .opt t, v =>
    (match v with
     | .null => .ok .none
     | _ => match de env t v with
       | .ok d => .ok (.some d)
       | .error e => .error e)
  | .newtype t, v =>
    (match de env t v with
     | .ok d => .ok (.newtypeStruct d)
     | .error e => .error e)
  | .seq t, v =>
    (match v with
     | .array xs => (match mapE (de env t) xs with | .ok ds => .ok (.seq ds) | .error e => .error e)
     | _ => .error .invalidType)
  | .tuple ts, v =>
    (match v with
     | .array xs => seqDone (deTuple env ts xs) .seq
     | _ => .error .invalidType)
  | .map k t, v =>
    (match v with
     | .object es =>
       (match mapE (deEntry k (de env t)) es with
        | .ok l => .ok (.map l)
        | .error e => .error e)
     | _ => .error .invalidType)
  | .struct fs, v =>
    (match v with
     | .object es =>
       (match fillSlots (deField env fs 0) es (fs.map (fun _ => none)) with
        | .error e => .error e
        | .ok slots => match closeSlots fs slots with
          | .error e => .error e
          | .ok l => .ok (.struct l))
     | .array xs => seqDone (deFieldsSeq env fs xs) .struct
     | _ => .error .invalidType)
  | .enum vs, v =>
    (match v with
     | .string s => deVariant env vs s none
     | .object [(k, x)] => deVariant env vs k (some x)
     | .object _ => .error .invalidValue
     | _ => .error .invalidType)
/-- a tuple visitor: one `next_element` per component; `None` early is `invalid_length` -/
def deTuple (env : FEnv) : List DTy → List JValue → Except DeErr (List SData × List JValue)
  | [], xs => .ok ([], xs)
  | _ :: _, [] => .error .invalidLength
  | t :: ts, x :: xs =>
    match de env t x with
    | .error e => .error e
    | .ok d =>
      match deTuple env ts xs with
      | .error e => .error e
      | .ok (ds, rest) => .ok (d :: ds, rest)
/-- serde-derive's `visit_seq` for a struct: positional -/
def deFieldsSeq (env : FEnv) : List (List Char × DTy) → List JValue →
    Except DeErr (List (List Char × SData) × List JValue)
  | [], xs => .ok ([], xs)
  | _ :: _, [] => .error .invalidLength
  | (n, t) :: fs, x :: xs =>
    match de env t x with
    | .error e => .error e
    | .ok d =>
      match deFieldsSeq env fs xs with
      | .error e => .error e
      | .ok (ds, rest) => .ok ((n, d) :: ds, rest)
/-- field identifier lookup (`deserialize_identifier` → `visit_str`), with the value deserialized
    at the field's type -/
def deField (env : FEnv) : List (List Char × DTy) → Nat → List Char → JValue → Option (Nat × Except DeErr SData)
  | [], _, _, _ => none
  | (n, t) :: fs, i, k, x => if n == k then some (i, de env t x) else deField env fs (i + 1) k x
/-- `visit_enum`: the variant identifier, then the `VariantAccess` method for that variant's kind.
    `payload = none` for a string (`"V"`), `some x` for a single-entry object (`{"V": x}`). -/
def deVariant (env : FEnv) : List (List Char × DTy) → List Char → Option JValue → Except DeErr SData
  | [], _, _ => .error .unknownVariant
  | (n, p) :: vs, k, payload =>
    if n == k then
      match p with
      | .unit =>                               -- unit_variant: `()` from the payload, if any
        (match payload with
         | none => .ok (.unitVariant n)
         | some .null => .ok (.unitVariant n)
         | some _ => .error .invalidType)
      | .newtype t =>                          -- newtype_variant_seed
        (match payload with
         | none => .error .invalidType
         | some x => match de env t x with
           | .ok d => .ok (.newtypeVariant n d)
           | .error e => .error e)
      | .tuple ts =>                           -- tuple_variant: an empty array is `visit_unit`
        (match payload with
         | some (.array []) => .error .invalidType
         | some (.array xs) => seqDone (deTuple env ts xs) (.tupleVariant n)
         | _ => .error .invalidType)
      | .struct fs =>                          -- struct_variant: objects only
        (match payload with
         | some (.object es) =>
           (match fillSlots (deField env fs 0) es (fs.map (fun _ => none)) with
            | .error e => .error e
            | .ok slots => match closeSlots fs slots with
              | .error e => .error e
              | .ok l => .ok (.structVariant n l))
         | _ => .error .invalidType)
      | _ => .error .custom                    -- not a variant descriptor
    else deVariant env vs k payload
end

/-! ## `impl Deserialize for Value` driven by a `Value` (`from_value::<Value>`) -/

/-- `ft n` = the text of `NumberBuf::try_from(n.parse::<f64>())` (`none` when that double is not
    finite): std's parser and lexical's printer, not modelled -/
def numBack (ft : List Char → Option (List Char)) (n : List Char) : JValue :=
  match numEvent n with
  | .u64 u => .number (natText u)
  | .i64 i => .number (intText i)
  | .f64 => match ft n with
    | some t => .number t
    | none => .null

mutual
def fromValue (ft : List Char → Option (List Char)) : JValue → Except DeErr JValue
  | .null => .ok .null
  | .bool b => .ok (.bool b)
  | .number n => .ok (numBack ft n)
  | .string s => .ok (.string s)
  | .array xs =>
    (match fromValueL ft xs with
     | .ok l => .ok (.array l)
     | .error e => .error e)
  | .object [] => .ok (.object [])
  | .object ((k, x) :: es) =>
    if k == numberToken then
      -- MapTag::Number: `next_value::<String>()`, `NumberBuf::new`, then visit_object's length check
      match x with
      | .string s =>
        if numberOk s then (if es.isEmpty then .ok (.number s) else .error .invalidLength)
        else .error .custom
      | _ => .error .invalidType
    else
      match fromValue ft x with
      | .error e => .error e
      | .ok y => fromValueM ft es [(k, y)]
def fromValueL (ft : List Char → Option (List Char)) : List JValue → Except DeErr (List JValue)
  | [] => .ok []
  | x :: xs =>
    match fromValue ft x with
    | .error e => .error e
    | .ok y =>
      match fromValueL ft xs with
      | .error e => .error e
      | .ok ys => .ok (y :: ys)
/-- `while let Some((key, value)) = next_entry()? { object.insert(key, value) }` -/
def fromValueM (ft : List Char → Option (List Char)) :
    List (List Char × JValue) → List (List Char × JValue) → Except DeErr JValue
  | [], acc => .ok (.object acc)
  | (k, x) :: es, acc =>
    match fromValue ft x with
    | .error e => .error e
    | .ok y => fromValueM ft es (listInsert acc k y)
end

/-- `impl Deserialize for Object` from a `Value`: `deserialize_map`, then `insert` entry by entry -/
def fromValueObject (ft : List Char → Option (List Char)) : JValue → Except DeErr JValue
  | .object es => fromValueM ft es []
  | _ => .error .invalidType

/-- decidable comparison of two deserialization results -/
def deResEq : Except DeErr JValue → Except DeErr JValue → Bool
  | .ok a, .ok b => a.beq b
  | .error e, .error f => e == f
  | _, _ => false

end JsonVerif
