import JsonVerif.Model.Parse
/-!
# Model of the serde serializer (src/serde/ser.rs) and of `Serialize for Value / Object / Number`

`SData` is the serde data model as seen by a `Serializer`: one constructor per `serialize_*` entry
point (integer widths are merged: the serializer forwards them to the 64-bit methods). Floats carry
the text `NumberBuf::try_from(f)` produced (lexical's formatting is opaque; `none` = non-finite).
`ser` mirrors `Serializer`, `KeySerializer`, `StringNumberSerializer` and the compound serializers,
including the `$serde_json::private::Number` channel of `SerializeMap` and the
`Object::insert` (replace-first, purge later duplicates) used for map entries.
-/
namespace JsonVerif

inductive SData where
  | bool (b : Bool)
  | int (i : Int)                       -- serialize_i8 … i64
  | uint (n : Nat)                      -- serialize_u8 … u64
  | float (text : Option (List Char))   -- serialize_f32 / f64
  | char (c : Char)
  | str (s : List Char)
  | bytes (l : List Nat)
  | none
  | some (d : SData)
  | unit
  | unitStruct
  | unitVariant (v : List Char)
  | newtypeStruct (d : SData)
  | newtypeVariant (v : List Char) (d : SData)
  | seq (l : List SData)                -- seq / tuple / tuple struct
  | tupleVariant (v : List Char) (l : List SData)
  | map (l : List (SData × SData))
  | struct (l : List (List Char × SData))
  | structVariant (v : List Char) (l : List (List Char × SData))
deriving Inhabited

inductive SerErr | nonStringKey | malformedNumber | custom (msg : List Char) | panic
deriving Repr, DecidableEq

def numberToken : List Char := "$serde_json::private::Number".toList

/-- `NumberBuf::new(bytes).is_ok()` — the json-number automaton, which is the parser's automaton
    run to the end of the text -/
def numberOk (n : List Char) : Bool :=
  match numLoop .none .init [] n 0 with
  | .ok (st, _, r, _) => r.isEmpty && st.accepting
  | .error _ => false

/-- `Object::insert` on the entry list: replace the first entry with that key and purge the later
    ones, or append -/
def listInsert (es : List (List Char × JValue)) (k : List Char) (v : JValue) : List (List Char × JValue) :=
  if es.any (fun e => e.1 == k) then
    let rec go : List (List Char × JValue) → Bool → List (List Char × JValue)
      | [], _ => []
      | e :: r, seen => if e.1 == k then (if seen then go r true else (k, v) :: go r true) else e :: go r seen
    go es false
  else es ++ [(k, v)]

def natText (n : Nat) : List Char := (toString n).toList
def intText (i : Int) : List Char := (toString i).toList

-- `KeySerializer`
def serKey : SData → Except SerErr (List Char)
  | .unitVariant v => .ok v
  | .newtypeStruct d => serKey d
  | .int i => .ok (intText i)
  | .uint n => .ok (natText n)
  | .char c => .ok [c]
  | .str s => .ok s
  | _ => .error .nonStringKey

/-- `StringNumberSerializer` -/
def serStrNum : SData → Except SerErr (List Char)
  | .str s => if numberOk s then .ok s else .error .malformedNumber
  | _ => .error .malformedNumber

/-- state of `SerializeMap` -/
inductive MapState where
  | object (es : List (List Char × JValue))
  | number (n : Option (List Char))

mutual
/-- `impl serde::Serializer for Serializer` -/
def ser : SData → Except SerErr JValue
  | .bool b => .ok (.bool b)
  | .int i => .ok (.number (intText i))
  | .uint n => .ok (.number (natText n))
  | .float (.some t) => .ok (.number t)
  | .float .none => .ok .null
  | .char c => .ok (.string [c])
  | .str s => .ok (.string s)
  | .bytes l => .ok (.array (l.map (fun b => .number (natText b))))
  | .none => .ok .null
  | .some d => ser d
  | .unit => .ok .null
  | .unitStruct => .ok .null
  | .unitVariant v => .ok (.string v)
  | .newtypeStruct d => ser d
  | .newtypeVariant v d =>
    match ser d with
    | .error e => .error e
    | .ok x => .ok (.object [(v, x)])
  | .seq l =>
    match serL l with
    | .error e => .error e
    | .ok xs => .ok (.array xs)
  | .tupleVariant v l =>
    match serL l with
    | .error e => .error e
    | .ok xs => .ok (.object [(v, .array xs)])
  | .map l => serMap l (.object [])
  | .struct l => serFields l (.object [])
  | .structVariant v l =>
    match serFieldsPlain l [] with
    | .error e => .error e
    | .ok es => .ok (.object [(v, .object es)])
def serL : List SData → Except SerErr (List JValue)
  | [] => .ok []
  | d :: r =>
    match ser d with
    | .error e => .error e
    | .ok x =>
      match serL r with
      | .error e => .error e
      | .ok xs => .ok (x :: xs)
/-- `SerializeMap::{serialize_key, serialize_value, end}` over the entries in order -/
def serMap : List (SData × SData) → MapState → Except SerErr JValue
  | [], .object es => .ok (.object es)
  | [], .number (.some n) => .ok (.number n)
  | [], .number .none => .error .malformedNumber
  | (_, _) :: _, .number _ => .error .malformedNumber        -- serialize_key in Number mode
  | (k, v) :: r, .object es =>
    match serKey k with
    | .error e => .error e
    | .ok key =>
      if es.isEmpty && key == numberToken then
        match serStrNum v with
        | .error e => .error e
        | .ok n => serMap r (.number (.some n))
      else
        match ser v with
        | .error e => .error e
        | .ok x => serMap r (.object (listInsert es key x))
/-- `SerializeStruct for SerializeMap`: `serialize_field = serialize_entry(key, value)` -/
def serFields : List (List Char × SData) → MapState → Except SerErr JValue
  | [], .object es => .ok (.object es)
  | [], .number (.some n) => .ok (.number n)
  | [], .number .none => .error .malformedNumber
  | (_, _) :: _, .number _ => .error .malformedNumber
  | (key, v) :: r, .object es =>
    if es.isEmpty && key == numberToken then
      match serStrNum v with
      | .error e => .error e
      | .ok n => serFields r (.number (.some n))
    else
      match ser v with
      | .error e => .error e
      | .ok x => serFields r (.object (listInsert es key x))
/-- `SerializeStructVariant::serialize_field`: plain `obj.insert(key, value)` -/
def serFieldsPlain : List (List Char × SData) → List (List Char × JValue) →
    Except SerErr (List (List Char × JValue))
  | [], es => .ok es
  | (key, v) :: r, es =>
    match ser v with
    | .error e => .error e
    | .ok x => serFieldsPlain r (listInsert es key x)
end

/-- `as_i64` / `as_u64`: `str::parse` of the number text -/
def asI64 (n : List Char) : Option Int :=
  match (String.ofList n).toInt? with
  | .some i => if -(2 ^ 63 : Int) ≤ i ∧ i < 2 ^ 63 then .some i else .none
  | .none => .none
def asU64 (n : List Char) : Option Nat :=
  match (String.ofList n).toNat? with
  | .some i => if i < 2 ^ 64 then .some i else .none
  | .none => .none

/-- `Value::Number(n)` arm of `impl Serialize for Value` (after the `fix:` commit), together with
    json-number's `impl Serialize for Number`: plain 64-bit integer literals go through
    `serialize_i64` / `serialize_u64`; every other number (fraction, exponent form, integer beyond
    64 bits) through the `$serde_json::private::Number` struct channel. Every branch is `.ok` (so
    `valueData` below never fails either): the `Except` type only lets `toValue` chain it with `ser`. -/
def numberData (n : List Char) : Except SerErr SData :=
  if n.contains '.' then .ok (.struct [(numberToken, .str n)])
  else match asI64 n with
    | .some i => .ok (.int i)
    | .none => match asU64 n with
      | .some u => .ok (.uint u)
      | .none => .ok (.struct [(numberToken, .str n)])

-- `impl Serialize for Value / Object`: the calls made on the serializer
mutual
def valueData : JValue → Except SerErr SData
  | .null => .ok .unit
  | .bool b => .ok (.bool b)
  | .number n => numberData n
  | .string s => .ok (.str s)
  | .array xs =>
    match valueDataL xs with
    | .error e => .error e
    | .ok l => .ok (.seq l)
  | .object es =>
    match valueDataM es with
    | .error e => .error e
    | .ok l => .ok (.map l)
def valueDataL : List JValue → Except SerErr (List SData)
  | [] => .ok []
  | x :: xs =>
    match valueData x with
    | .error e => .error e
    | .ok d =>
      match valueDataL xs with
      | .error e => .error e
      | .ok l => .ok (d :: l)
def valueDataM : List (List Char × JValue) → Except SerErr (List (SData × SData))
  | [] => .ok []
  | (k, x) :: es =>
    match valueData x with
    | .error e => .error e
    | .ok d =>
      match valueDataM es with
      | .error e => .error e
      | .ok l => .ok ((.str k, d) :: l)
end

/-- decidable comparison of a serializer result with an expected value -/
def okEq (r : Except SerErr JValue) (w : JValue) : Bool :=
  match r with
  | .ok v => v.beq w
  | .error _ => false

/-- `json_syntax::to_value(&value)` -/
def toValue (v : JValue) : Except SerErr JValue :=
  match valueData v with
  | .error e => .error e
  | .ok d => ser d

end JsonVerif
