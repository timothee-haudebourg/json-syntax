import JsonVerif.Lemmas.PrintOneLine
/-!
# C08 — Compact output is the unique minimal serialization of the value

Statement: compact printing (equally Display, to_string and conversion into a String) emits no
whitespace outside strings, only ',' and ':' as separators, numbers verbatim, and strings with
exactly the RFC 8785 escaping: \" and \\, the short forms \b \t \n \f \r, lowercase \u00xx for the
other characters below U+0020, and every other character raw. Compact output is thus a
deterministic function of the value, byte-for-byte equal to an independent reference serializer.

`refSerialize` (Spec/Print.lean) is that reference serializer, written directly.
-/
namespace JsonVerif.C08
open JsonVerif

/-- The compact preset has every spacing equal to zero and no limit. (`Gen.compactPreset` is
    generated from `Options::compact()` in src/print/mod.rs; that it is that record is trusted.) -/
theorem C08_preset : IsCompact Gen.compactPreset := isCompact_compactPreset

/-- **C08.** Compact printing of any value is the reference serialization (for any starting
    indentation: `Display`, `to_string` and `String::from` all print with the compact preset). -/
theorem C08_compact (v : JValue) (ind : Nat) :
    printWith Gen.compactPreset ind v = some (refSerialize v) :=
  printWith_compact C08_preset ind v

/-- The escaping table, character by character: exactly RFC 8785 §3.2.2.2. -/
theorem C08_escape (c : Char) :
    escapeChar c =
      if c = '\\' then ['\\', '\\'] else if c = '"' then ['\\', '"']
      else if c.toNat = 8 then ['\\', 'b'] else if c.toNat = 9 then ['\\', 't']
      else if c.toNat = 10 then ['\\', 'n'] else if c.toNat = 12 then ['\\', 'f']
      else if c.toNat = 13 then ['\\', 'r']
      else if c.toNat < 0x20 then
        ['\\', 'u', '0', '0', hexDigitLower (c.toNat / 16), hexDigitLower (c.toNat % 16)]
      else [c] := by
  have hc : ∀ n : Nat, (Char.ofNat n).toNat = n → (c = Char.ofNat n ↔ c.toNat = n) := by
    intro n hn; rw [← Char.toNat_inj, hn]
  rw [escapeChar]
  simp only [hc 8 (by decide), hc 9 (by decide), hc 10 (by decide), hc 12 (by decide),
    hc 13 (by decide)]
  by_cases h : c.toNat ≤ 0x1f
  · obtain ⟨e1, e2, e3⟩ := hex4_ctl h
    rw [if_pos h, if_pos (Nat.lt_succ_of_le h), e1, e2, e3]
    rfl
  · rw [if_neg h, if_neg (mt Nat.le_of_lt_succ h)]

/-! Non-vacuity: controls, quote, backslash, DEL, U+2028, non-BMP, duplicate keys. -/
example : printWith Gen.compactPreset 0
    (.object [(['a'], .array [.string [Char.ofNat 1, '"', '\\', '/', Char.ofNat 0x7f, Char.ofNat 0x2028, Char.ofNat 0x1F600, '\n'], .number "-1.50E+3".toList]), (['a'], .null)]) =
    some ("{\"a\":[\"\\u0001\\\"\\\\/".toList ++ [Char.ofNat 0x7f, Char.ofNat 0x2028, Char.ofNat 0x1F600] ++ "\\n\",-1.50E+3],\"a\":null}".toList) := by
  decide +kernel

end JsonVerif.C08
