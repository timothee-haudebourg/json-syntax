import JsonVerif.Lemmas.PrintOneLine
/-!
# C13 — Pretty-print layout follows the documented options and limits exactly

Statement: for every value and option record the output equals the documented layout: a container
is printed on one line iff all of its children are and its one-line form respects the configured
item and width limits, where width is the number of characters actually printed (empty containers
use the dedicated empty spacing); otherwise each child goes on its own line indented by depth
times the indent unit. The configured numbers of spaces after the opening and before the closing
bracket, around commas and around colons are emitted exactly, and the inline and compact presets
never emit a line break.

`specPrint` (Spec/Print.lean) *is* that documented layout, written directly; `printWith`
(Model/Print.lean) is the code's two-phase printer (size pre-computation, then emission).
-/
namespace JsonVerif.C13
open JsonVerif

/-- The printer's output is the documented layout; `some`: the size-table indexing of the emission
    phase cannot panic. -/
theorem C13_layout (o : PrintOptions) (v : JValue) (ind : Nat) :
    printWith o ind v = some (specPrint o ind v) := printer_eq_spec o v ind

/-- The width that is compared with the limits is the number of characters actually printed for
    the one-line form, for arrays and for empty containers as for objects. -/
theorem C13_width (o : PrintOptions) (v : JValue) :
    (pre o v).1 = if inl o v then .width (oneLine o v).length else .expanded := pre_fst o v

/-- Records without limits (in particular the regenerated `inline` and `compact` presets) print
    everything on one line: no line break is ever added by the layout. -/
theorem C13_nolimit (o : PrintOptions) (ha : o.arrayLimit = none) (hb : o.objectLimit = none)
    (v : JValue) (ind : Nat) : printWith o ind v = some (oneLine o v) := by
  rw [printer_eq_spec, spec_nolimit o ha hb]

theorem C13_presets :
    Gen.inlinePreset.arrayLimit = none ∧ Gen.inlinePreset.objectLimit = none ∧
    Gen.compactPreset.arrayLimit = none ∧ Gen.compactPreset.objectLimit = none := by decide

/-! Non-vacuity: a record whose array and object spacings differ, with a width limit that the
    one-line form of the inner array respects and the outer one exceeds. -/
def demoOpts : PrintOptions :=
  { indent := .tabs 1, arrayBegin := 3, arrayEnd := 3, arrayEmpty := 2, arrayBeforeComma := 1,
    arrayAfterComma := 0, arrayLimit := some (.width 12), objectBegin := 0, objectEnd := 1,
    objectEmpty := 1, objectBeforeComma := 0, objectAfterComma := 2, objectBeforeColon := 1,
    objectAfterColon := 0, objectLimit := some (.itemOrWidth 1 30) }

example : printWith demoOpts 0 (.array [.number ['1'], .array [], .object [(['k'], .null)]]) =
    some "[\n\t1 ,\n\t[  ] ,\n\t{\"k\" :null }\n]".toList := by decide +kernel

end JsonVerif.C13
