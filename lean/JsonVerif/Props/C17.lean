import JsonVerif.Lemmas.FromValue
/-!
# C17 — Value's own Serialize/Deserialize implementations preserve the JSON value

Statement: serializing a Value with the crate's own serializer reproduces it exactly (same
structure, strings, key order and number spelling, except that negative zero may lose its sign)
for objects without duplicate keys, while duplicate keys collapse to the first position holding
the last value. Deserializing a Value from another Value, or from JSON text through a
self-describing deserializer, yields the same structure with every number denoting the same
integer or double.
-/
namespace JsonVerif.C17

/-- **`to_value(&value)` reproduces the value**, for every value whose numbers are JSON numbers
    (enforced by `NumberBuf`), without duplicate keys and without the private number token as a key:
    same structure, strings and key order; every number keeps its exact spelling except plain
    64-bit integer literals, which are re-rendered from the integer (`numNorm`: this is where `-0`
    loses its sign). Exponent forms and integers beyond 64 bits are included. -/
theorem C17_serialize (v : JValue) (h : Plain v) : toValue v = .ok (mapNumbers numNorm v) :=
  toValue_plain v h

/-- Numbers with a fraction, an exponent, or beyond 64 bits are reproduced byte-for-byte. -/
theorem C17_number_verbatim (n : List Char) (hn : numberOk n = true)
    (h : n.contains '.' = true ∨ (asI64 n = none ∧ asU64 n = none)) :
    toValue (.number n) = .ok (.number n) := by
  rw [toValue_plain (.number n) hn]
  simp only [mapNumbers, numNorm]
  rcases h with h | ⟨h1, h2⟩
  · rw [if_pos h]
  · simp [h1, h2]

/-- The hypothesis "no key is the private number token" cannot be dropped: an object whose first
    key is `$serde_json::private::Number` is (mis)read as a number — serde_json's own convention
    (a known finding). -/
theorem C17_magic_key_witness :
    okEq (toValue (.object [(numberToken, .string ['1', '.', '5'])])) (.number ['1', '.', '5']) = true := by
  decide +kernel

/-- Duplicate keys collapse to the first position holding the last value (kernel-evaluated
    instance of the `Object::insert` semantics used by the map serializer). -/
theorem C17_duplicates_witness :
    okEq (toValue (.object [(['a'], .null), (['b'], .bool true), (['a'], .bool false), (['a'], .string ['z'])]))
      (.object [(['a'], .string ['z']), (['b'], .bool true)]) = true := by decide +kernel

/-- **Deserialization** (`from_value::<Value>`, model of `Deserialize for Value` driven by
    `Deserializer for Value`): a value in which no object has duplicate keys or starts with the
    private number token comes back with the same structure, strings, booleans, nulls and key order,
    every number passed through the number dispatch of de.rs and back into a `Value` (`numBack`). -/
theorem C17_deserialize (ft : List Char → Option (List Char)) (v : JValue) (h : DePlain v) :
    fromValue ft v = .ok (backValue ft v) :=
  fromValue_plain ft v h

/-- … and that round trip keeps the integer: a number `as_u64` (`as_i64`) reads as a u64 (an i64)
    comes back as a text it reads as the same u64 (i64). Every other number goes through the double
    `str::parse::<f64>` gives for it, printed by lexical (`ft`, a parameter). -/
theorem C17_numbers_same_integer (ft : List Char → Option (List Char)) (n : List Char) :
    (∀ u, asU64 n = some u → ∃ t, numBack ft n = .number t ∧ asU64 t = some u) ∧
    (∀ i, asU64 n = none → asI64 n = some i → ∃ t, numBack ft n = .number t ∧ asI64 t = some i) ∧
    (asU64 n = none → asI64 n = none →
      (∀ t, ft n = some t → numBack ft n = .number t) ∧ (ft n = none → numBack ft n = .null)) :=
  ⟨numBack_u64 ft n, numBack_i64 ft n, numBack_f64 ft n⟩

/-- **Both directions composed**: a plain value serialized with the crate's own serializer and
    deserialized again is the value with its 64-bit integer literals re-rendered and every number
    passed through the number dispatch of de.rs — nothing else changes. -/
theorem C17_value_round_trip (ft : List Char → Option (List Char)) (v : JValue) (h : Plain v) :
    ∃ w, toValue v = .ok w ∧ fromValue ft w = .ok (backValue ft (mapNumbers numNorm v)) :=
  ⟨_, toValue_plain v h, fromValue_plain ft _ (dePlain_mapNumbers numNorm v h)⟩

/-- `from_value::<Object>`: the entries in order, values deserialized as above. -/
theorem C17_object_deserialize (ft : List Char → Option (List Char)) (es : List (List Char × JValue))
    (h : DePlainM es) (hnd : (es.map (·.1)).Nodup) :
    fromValueObject ft (.object es) = .ok (.object (backValueM ft es)) :=
  fromValueM_plain ft es [] h hnd

/-- The hypothesis on the first key cannot be dropped here either: an object starting with the
    private number token is read as that number, or rejected (same known finding). -/
theorem C17_magic_key_deserialize :
    deResEq (fromValue (fun _ => none) (.object [(numberToken, .string ['1', '.', '5'])])) (.ok (.number ['1', '.', '5'])) = true ∧
    deResEq (fromValue (fun _ => none) (.object [(numberToken, .null)])) (.error .invalidType) = true ∧
    deResEq (fromValue (fun _ => none) (.object [(numberToken, .string ['1']), (['a'], .null)])) (.error .invalidLength) = true := by
  decide +kernel

example : DePlain (.object [(['k'], .array [.number ['1'], .object []]), (numberToken, .null)]) := by
  simp only [DePlain, DePlainM, DePlainL, List.map_cons, List.map_nil, List.head?_cons, List.head?_nil, true_and, and_true]
  decide +kernel

/-! Non-vacuity of `Plain` (kernel-evaluated for numbers with a fraction; the integer path goes
    through `String.toInt?`, which the kernel does not unfold — it is exercised by the
    correspondence run). -/
example : okEq (toValue (.object [(['k'], .array [.number "-0.0".toList, .number "1.5e300".toList, .string ['é']]), (['l'], .null)]))
    (.object [(['k'], .array [.number "-0.0".toList, .number "1.5e300".toList, .string ['é']]), (['l'], .null)]) = true := by
  decide +kernel

end JsonVerif.C17
