import JsonVerif.Lemmas.Conservative
import JsonVerif.Lemmas.Steps
import JsonVerif.Lemmas.Spans
import JsonVerif.Lemmas.Hub
/-!
# C05 — Code map: one exact source span and volume per fragment, in pre-order

Statement: a successful parse returns a code map with exactly one entry per fragment of the value
(every value, every object entry, every key) in pre-order. Entry i's byte span is exactly the
source text of fragment i, from its first to its last significant character with no surrounding
whitespace, and its volume is the number of fragments in the subtree rooted there, so the root's
volume equals the map's length and every volume is at least 1.
-/
namespace JsonVerif.C05
open JsonVerif

/-- **The code map is the one the grammar induces** (`SDoc`, Spec/Spans.lean): whatever the strict
    parser returns is that code map. -/
theorem C05_codemap_is_spec (cs : List Char) (v : JValue) (cm : List CMEntry)
    (h : parseStr ⟨false, false⟩ cs = .ok (v, cm)) : SDoc cs v cm := parse_codemap h

/-- … and every valid document gets it, under every option record. (`parse_codemap` is stated at
    the strict record only, since `SValue` has RFC 8259 strings; on a valid text a run under `o` is the
    strict run: `run_mono`.) -/
theorem C05_every_document (o : ParseOptions) (cs : List Char) (v : JValue) (hg : GDoc cs v) :
    ∃ cm, parseStr o cs = .ok (v, cm) ∧ SDoc cs v cm := by
  obtain ⟨cm, hc⟩ := parse_complete so hg
  obtain ⟨v', s', hr, he⟩ := parseChars_ok.1 hc
  exact ⟨cm, parseChars_ok.2 ⟨v', s', run_mono hr, he⟩, parse_codemap hc⟩

/-- **Volumes**: the volume column is the pre-order list of subtree sizes (`volsV`, the hypothesis
    of the navigation theorems of C11); one entry per fragment; the root's volume is the map's
    length. (No clause says "at least 1": every entry of `volsV` is visibly `1`, `1 + …` or `2 + …`.) -/
theorem C05_volumes (cs : List Char) (v : JValue) (cm : List CMEntry)
    (h : parseStr ⟨false, false⟩ cs = .ok (v, cm)) :
    volumes cm = volsV v ∧ cm.length = v.frags ∧ (cm.head?.map (·.volume)) = some cm.length := by
  have hv := parse_volumes h
  have hl : cm.length = v.frags := (length_of_volumes hv).trans (volsV_length v)
  refine ⟨hv, hl, ?_⟩
  obtain ⟨t, ht⟩ := volsV_head v
  rw [ht] at hv
  cases cm with
  | nil => simp [volumes] at hv
  | cons e r =>
    simp only [volumes, List.map_cons, List.cons.injEq] at hv
    simp [hv.1, ← hl]

/-- The root entry spans exactly the value's text: it starts after the leading whitespace and ends
    before the trailing whitespace. -/
theorem C05_root_span (cs : List Char) (v : JValue) (cm : List CMEntry)
    (h : parseStr ⟨false, false⟩ cs = .ok (v, cm)) :
    ∃ w1 t w2 rest, cs = w1 ++ t ++ w2 ∧ IsWsL w1 ∧ IsWsL w2 ∧ GValue t v ∧
      cm = ⟨utf8Len w1, utf8Len w1 + utf8Len t, cm.length⟩ :: rest := by
  obtain ⟨w1, t, w2, e, h1, hs, h2⟩ := parse_codemap h
  refine ⟨w1, t, w2, cm.tail, e, h1, h2, hs.erase, ?_⟩
  cases hs with
  | null b => rw [utf8Len_null]; rfl
  | true b => rw [utf8Len_true]; rfl
  | false b => rw [utf8Len_false]; rfl
  | number | string => rfl
  | arrEmpty | arr | objEmpty | obj => simp; omega

/-- **Leaf fragments** (`null`, `true`/`false`, numbers, strings and keys), in every context and
    under every option record: lexing one appends exactly ONE code-map entry — pre-order position =
    reservation order — whose span starts at the fragment's first character, ends right after its
    last one (positions are byte offsets: `Adv`), and whose volume is 1. -/
theorem C05_leaf_partial :
    (∀ (s s' : PS), lexNull s = .ok s' → s'.cm = s.cm.push ⟨s.pos, s'.pos, 1⟩) ∧
    (∀ (s s' : PS) b, lexBool s = .ok (b, s') → s'.cm = s.cm.push ⟨s.pos, s'.pos, 1⟩) ∧
    (∀ ctx (s s' : PS) n, lexNumber ctx s = .ok (n, s') →
        s'.cm = s.cm.push ⟨s.pos, s'.pos, 1⟩ ∧ s'.pos = s.pos + utf8Len n) ∧
    (∀ o (s s' : PS) str, lexString o s = .ok (str, s') → s'.cm = s.cm.push ⟨s.pos, s'.pos, 1⟩) :=
  ⟨fun _ _ h => (lexNull_spec h).2, fun _ _ _ h => (lexBool_spec h).2,
   fun _ _ _ _ h => ⟨(lexNumber_spec h).2.2.2, (lexNumber_spec h).2.2.1⟩, fun _ _ _ _ h => lexString_cm h⟩

/-- Spans are measured in bytes of the UTF-8 text: on success the final position is the UTF-8
    length of the whole input (so the root span can end at most there). -/
theorem C05_positions_are_bytes (o : ParseOptions) (cs : List Char) (v : JValue) (s' : PS)
    (h : run o [] none { rest := cs, bad := false, pos := 0, cm := #[] } = .ok (v, s')) :
    s'.pos = utf8Len cs := by
  obtain ⟨ha, hr, _⟩ := run_ok h
  simpa using pos_of ha (w := cs) (by simp [hr])

/-! Non-vacuity: the code map of the repository's own unit test `code_map_t1`, kernel-evaluated on
    the model, plus an empty object and a multi-byte string. -/
example : (parseChars ⟨false, false⟩ "{ \"a\": 0, \"b\": [1, 2] }".toList false).toOption.map (·.2) =
    some [⟨0, 23, 9⟩, ⟨2, 8, 3⟩, ⟨2, 5, 1⟩, ⟨7, 8, 1⟩, ⟨10, 21, 5⟩, ⟨10, 13, 1⟩, ⟨15, 21, 3⟩, ⟨16, 17, 1⟩, ⟨19, 20, 1⟩] := by
  rw [← parseCharsF_eq]; decide +kernel
example : (parseChars ⟨false, false⟩ " [ {} , \"é\" ] ".toList false).toOption.map (·.2) =
    some [⟨1, 14, 3⟩, ⟨3, 5, 1⟩, ⟨8, 12, 1⟩] := by
  rw [← parseCharsF_eq]; decide +kernel

end JsonVerif.C05
