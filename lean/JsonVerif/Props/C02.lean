import JsonVerif.Lemmas.Steps
import JsonVerif.Lemmas.ObjOps
import JsonVerif.Lemmas.Hub
/-!
# C02 — Faithful decoding: the parsed value is the document's abstract content

Statement: when parsing succeeds the returned value has exactly the document's content: array
items and object entries in source order with duplicate keys preserved, every string and key
decoded per RFC 8259 section 7, every number kept byte-for-byte in its source spelling with
unlimited precision, and the literals mapped to null/true/false. Key lookups on a parsed object
return exactly the values of the entries carrying that key, in source order.
-/
namespace JsonVerif.C02
open JsonVerif Obj

/-- **The parsed value is the document's content**: `GDoc text v` (Spec/Grammar.lean) assigns to a
    JSON-text its abstract content — items and members in source order, duplicates kept, strings
    as the characters their `char` productions denote (two-character escapes, `\uXXXX`, surrogate
    pairs combined), numbers as their spelling, literals as themselves. Whatever the strict parser
    returns is that content … -/
theorem C02_value_is_content (cs : List Char) (v : JValue) (cm : List CMEntry)
    (h : parseStr ⟨false, false⟩ cs = .ok (v, cm)) : GDoc cs v := parse_sound h

/-- … every valid document is parsed to its content, under every option record … -/
theorem C02_content_is_parsed (o : ParseOptions) (cs : List Char) (v : JValue) (h : GDoc cs v) :
    ∃ cm, parseStr o cs = .ok (v, cm) := parse_complete o h

/-- … and that content is unique, so "the document's abstract content" is well defined. -/
theorem C02_content_unique (cs : List Char) (v v' : JValue) (h : GDoc cs v) (h' : GDoc cs v') :
    v = v' := gdoc_unique h h'

/-- **Numbers byte-for-byte, unlimited precision**: in every context and under every option record
    the number value returned by the lexer is exactly the sequence of characters it consumed — no
    normalisation, no truncation, whatever the length. -/
theorem C02_number_verbatim_partial (ctx : Ctx) (s s' : PS) (n : List Char)
    (h : lexNumber ctx s = .ok (n, s')) : s.rest = n ++ s'.rest := (lexNumber_spec h).1

/-- **Literals**: `null`, `true`, `false` are recognised from exactly those spellings. -/
theorem C02_literals_partial :
    (∀ (s s' : PS), lexNull s = .ok s' → s.rest = ['n', 'u', 'l', 'l'] ++ s'.rest) ∧
    (∀ (s s' : PS) b, lexBool s = .ok (b, s') →
      s.rest = (if b then ['t', 'r', 'u', 'e'] else ['f', 'a', 'l', 's', 'e']) ++ s'.rest) :=
  ⟨fun _ _ h => (lexNull_spec h).1, fun _ _ _ h => (lexBool_spec h).1⟩

/-- **Key lookups on a parsed object** (an object built by pushing the entries in source order, as
    the parser does): `get`/`get_entries` return exactly the entries carrying the key, in source
    order; `index_of` the first of them — duplicates preserved. -/
theorem C02_lookup (es : List (Key × JValue)) (k : Key) :
    ∃ o, Obj.empty.extend es = some o ∧ o.entries = es ∧
      o.getEntries k = some (es.filter (fun e => e.1 == k)) ∧
      o.indexOf k = (posOf k es).head? := by
  obtain ⟨o, ho, hinv, he⟩ := extend_inv es inv_empty
  simp only [Obj.empty, List.nil_append] at he
  exact ⟨o, ho, he, by rw [getEntries_eq hinv k, he], by rw [indexOf_eq hinv k, he]⟩

/-! Non-vacuity / decoding examples, kernel-evaluated on the model: order, duplicates, every escape
    form, a surrogate pair, raw non-BMP, exotic number spellings. -/
example : (parseChars ⟨false, false⟩
      "{\"k\":[-0.0e+00, 1E400, 12345678901234567890123], \"k\":\"\\\"\\\\\\/\\b\\f\\n\\r\\t\\u00e9\\ud834\\udd1e😀\", \"\":null}".toList false).toOption.map
      (fun r => JValue.beq r.1 (.object [
        (['k'], .array [.number "-0.0e+00".toList, .number "1E400".toList, .number "12345678901234567890123".toList]),
        (['k'], .string ['"', '\\', '/', Char.ofNat 8, Char.ofNat 12, '\n', '\r', '\t', 'é', Char.ofNat 0x1D11E, Char.ofNat 0x1F600]),
        ([], .null)])) = some true := by
  rw [← parseCharsF_eq]; decide +kernel

end JsonVerif.C02
