import JsonVerif.Lemmas.KindSet
/-!
# C20 — KindSet is a faithful finite set of value kinds

Statement (properties.jsonl): KindSet behaves as a mathematical set over the six value kinds:
union and intersection in all operand combinations, length, emptiness, forward and backward
iteration (ascending kind order, double-ended consistent, exact remaining size) and the textual
renderings agree with set semantics for all 64 sets and all operand pairs. The kind reported for a
value matches its variant.

What is evaluated is the table regenerated from `src/kind.rs` (every mask is a single bit below 64,
no two kinds share one, the rows stand in kind order) and, per set of the 64-set domain, one step
of the iterator from either end and the length. Everything else is argued from that: membership is
a bit test, so the algebra is that of `|||` / `&&&` bit by bit; iteration is lifted to every
interleaving of front/back steps by induction; the renderings are read off the iteration steps.
The vocabulary of the statements (`mem`, `toList`, `ofFin`, `specRun`, …) and the lemmas are in
Lemmas/KindSet.lean.
-/
namespace JsonVerif.C20

theorem C20_table :
    Gen.kindTable.map (·.1) = Kind.all ∧ Gen.kindDeclOrder = Kind.all ∧
    (Gen.kindTable.map (·.2)).length = 6 ∧
    (∀ m ∈ [1, 2, 4, 8, 16, 32], m ∈ Gen.kindTable.map (·.2)) ∧ KindSet.all = ⟨63⟩ := by
  decide +kernel

theorem C20_closed :
    (∀ a b : Fin 64, ((ofFin a).or (ofFin b)).bits < 64 ∧ ((ofFin a).and (ofFin b)).bits < 64) ∧
    (∀ (a : Fin 64) (k : Fin 6), ((ofFin a).orKind (kindOf k)).bits < 64 ∧
        ((ofFin a).andKind (kindOf k)).bits < 64 ∧ ((kindOf k).orSet (ofFin a)).bits < 64 ∧
        ((kindOf k).andSet (ofFin a)).bits < 64) ∧
    (∀ k l : Fin 6, ((kindOf k).or (kindOf l)).bits < 64 ∧ ((kindOf k).and (kindOf l)).bits < 64 ∧
        (KindSet.ofKind (kindOf k)).bits < 64) ∧
    KindSet.none.bits < 64 ∧ KindSet.all.bits < 64 :=
  ⟨fun a b => ⟨or_lt a.2 b.2, and_lt _ b.2⟩,
   fun a k => ⟨or_lt a.2 (mask_lt _), and_lt _ (mask_lt _), or_lt (mask_lt _) a.2, and_lt _ a.2⟩,
   fun k l => ⟨or_lt (mask_lt _) (mask_lt _), and_lt _ (mask_lt _), mask_lt _⟩,
   by decide, by decide⟩

theorem C20_ext (a b : Fin 64) : toList (ofFin a) = toList (ofFin b) ↔ ofFin a = ofFin b :=
  ⟨toList_inj a.2 b.2, congrArg toList⟩

theorem C20_none_all : toList KindSet.none = [] ∧ toList KindSet.all = Kind.all := toList_none_all

theorem C20_ofKind (k : Kind) : toList (KindSet.ofKind k) = [k] := by cases k <;> decide

theorem C20_set_set (a b : Fin 64) (k : Kind) :
    mem ((ofFin a).or (ofFin b)) k = (mem (ofFin a) k || mem (ofFin b) k) ∧
    mem ((ofFin a).and (ofFin b)) k = (mem (ofFin a) k && mem (ofFin b) k) :=
  ⟨mem_or .., mem_and ..⟩

theorem C20_set_kind (a : Fin 64) (l k : Kind) :
    mem ((ofFin a).orKind l) k = (mem (ofFin a) k || decide (l = k)) ∧
    mem ((ofFin a).andKind l) k = (mem (ofFin a) k && decide (l = k)) ∧
    mem (l.orSet (ofFin a)) k = (mem (ofFin a) k || decide (l = k)) ∧
    mem (l.andSet (ofFin a)) k = (mem (ofFin a) k && decide (l = k)) := by
  rw [← mem_ofKind]
  exact ⟨mem_or .., mem_and .., (mem_or ..).trans (Bool.or_comm ..),
    (mem_and ..).trans (Bool.and_comm ..)⟩

theorem C20_kind_kind (l m k : Kind) :
    mem (l.or m) k = (decide (l = k) || decide (m = k)) ∧
    mem (l.and m) k = (decide (l = k) && decide (m = k)) := by
  rw [← mem_ofKind, ← mem_ofKind]; exact ⟨mem_or .., mem_and ..⟩

theorem C20_len : ∀ a : Fin 64, (ofFin a).len = (toList (ofFin a)).length ∧
    ((ofFin a).isEmpty = (toList (ofFin a)).isEmpty) := len_eq

/-- **Every interleaving** of front/back steps (of any length, including steps past exhaustion:
    the iterator is fused) enumerates the abstract set consistently with exact remaining size. -/
theorem C20_iter (ds : List Bool) :
    ∀ a : Fin 64, implRun a.val ds = specRun (toList (ofFin a)) ds :=
  fun a => implRun_eq ds a.2

theorem C20_render : ∀ a : Fin 64,
    (ofFin a).display = specDisplay (toList (ofFin a)) ∧
    (ofFin a).junction .or_ = specJunction .or_ (toList (ofFin a)) ∧
    (ofFin a).junction .and_ = specJunction .and_ (toList (ofFin a)) :=
  fun a => ⟨display_eq a.2, junction_eq _ a.2, junction_eq _ a.2⟩

theorem C20_value_kind (v : JValue) :
    v.kind = match v with
      | .null => .null | .bool _ => .boolean | .number _ => .number
      | .string _ => .string | .array _ => .array | .object _ => .object := by
  cases v <;> rfl

example : toList (ofFin 41) = [.null, .string, .object] := by decide +kernel
example : (ofFin 41).junction .or_ = [.kind .null, .comma, .kind .string, .or_, .kind .object] := by
  decide +kernel

end JsonVerif.C20
