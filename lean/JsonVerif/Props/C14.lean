import JsonVerif.Lemmas.OrderLaws
import JsonVerif.Model.Object
/-!
# C14 — Equality, ordering and hashing are coherent and depend only on content

Statement: equality, ordering and hashing of values and objects depend only on the sequence of
items and entries, never on how an object was built or on the internal state of its key index:
objects with the same entries reached through different operation histories are equal, compare as
Equal and hash identically, and clones equal their originals. The ordering is a total order
consistent with equality (reflexive, antisymmetric, transitive; Equal exactly when equal).
-/
namespace JsonVerif.C14
open JsonVerif

/-- `impl PartialEq for Object` (src/object/mod.rs): `self.entries == other.entries`; like `Ord`
    and `Hash` below it reads `self.entries` only. Written through `cmp` because the model's
    `JValue` has no decidable equality; `C14_eq_iff` shows `cmp … = .eq` to be equality. -/
def Obj.eq (a b : Obj) : Bool := decide (JValue.cmp (.object a.entries) (.object b.entries) = .eq)
/-- `impl Ord for Object` -/
def Obj.cmp (a b : Obj) : Ordering := cmpM a.entries b.entries
/-- `impl Hash for Object`: the hash is `entries.hash(state)`; `hashInput` is what is fed to the
    hasher -/
def Obj.hashInput (a : Obj) : List (Key × JValue) := a.entries

/-- **Content only**: two objects with the same entry list — whatever their index buckets, i.e.
    whatever history produced them — are interchangeable for equality, ordering and hashing. -/
theorem C14_content (a b c : Obj) (h : a.entries = b.entries) :
    Obj.eq a c = Obj.eq b c ∧ Obj.cmp a c = Obj.cmp b c ∧ Obj.cmp c a = Obj.cmp c b ∧
    Obj.hashInput a = Obj.hashInput b ∧ Obj.cmp a b = .eq := by
  simp [Obj.eq, Obj.cmp, Obj.hashInput, h, cmpM_refl]

/-- `Equal` exactly when equal. -/
theorem C14_eq_iff (a b : JValue) : JValue.cmp a b = .eq ↔ a = b :=
  ⟨cmp_eq, fun h => h ▸ cmp_refl a⟩

theorem C14_refl (a : JValue) : JValue.cmp a a = .eq := cmp_refl a

/-- Antisymmetric / total: comparing in the other direction gives the opposite answer, so exactly
    one of `<`, `=`, `>` holds for every pair. -/
theorem C14_antisymm (a b : JValue) : JValue.cmp b a = (JValue.cmp a b).swap := cmp_swap a b

theorem C14_trans (a b c : JValue) (h1 : JValue.cmp a b = .lt) (h2 : JValue.cmp b c = .lt) :
    JValue.cmp a c = .lt := cmp_trans h1 h2

/-- `≤` is transitive too (mixed cases follow from `Equal ⇒ equal`). -/
theorem C14_le_trans (a b c : JValue) (h1 : JValue.cmp a b ≠ .gt) (h2 : JValue.cmp b c ≠ .gt) :
    JValue.cmp a c ≠ .gt := notGt_trans cmp_eq cmp_trans h1 h2

/-- The order of entries is the lexicographic (key, value) order used by `sort`. -/
theorem C14_entry_order (a b : List Char × JValue) :
    entryCmp a b = (match cmpChars a.1 b.1 with | .eq => JValue.cmp a.2 b.2 | o => o) := rfl

/-! Non-vacuity -/
example : JValue.cmp (.object [(['a'], .number ['1']), (['a'], .null)])
                     (.object [(['a'], .number ['1']), (['a'], .bool false)]) = .lt := by decide +kernel
example : JValue.cmp (.array [.null]) (.array [.null, .null]) = .lt := by decide +kernel

end JsonVerif.C14
