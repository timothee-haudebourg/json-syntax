import JsonVerif.Lemmas.PrintOneLine
import JsonVerif.Lemmas.Steps
import JsonVerif.Lemmas.Hub
/-!
# C04 — Printing round-trips: any value under any print options re-parses to itself

Statement: for every value and every combination of print options the printed text is a valid
strict RFC 8259 document that parses back to a value equal to the original, including entry order,
duplicate keys, every string's exact characters and the exact spelling of every number. Formatting
options therefore only ever change insignificant whitespace.
-/
namespace JsonVerif.C04
open JsonVerif

/-- For every value whose numbers are JSON numbers (`NumsOk`: the guard the API enforces through
    `NumberBuf::new`), every print option record, every starting indentation and every parse option
    record, the printer produces a text (it never panics) and the parser maps that text back to the
    very same value. -/
theorem C04_round_trip (po : PrintOptions) (ind : Nat) (o : ParseOptions) (v : JValue)
    (hn : NumsOk v) :
    ∃ t cm, printWith po ind v = some t ∧ parseStr o t = .ok (v, cm) := print_parse po ind o hn

/-- … in particular the printed text is always a valid strict RFC 8259 document denoting `v`. -/
theorem C04_printed_is_json (po : PrintOptions) (ind : Nat) (v : JValue) (hn : NumsOk v) :
    ∃ t, printWith po ind v = some t ∧ GDoc t v :=
  ⟨_, printer_eq_spec po v ind, interleave_gdoc hn (spec_interleave po v ind)⟩

/-- Under every option record and indentation the output is the value's own token sequence (the one
    the compact serializer concatenates) with JSON whitespace inserted between tokens only. -/
theorem C04_only_whitespace_partial (o : PrintOptions) (ind : Nat) (v : JValue) :
    ∃ t, printWith o ind v = some t ∧ Interleave (toks v) t :=
  ⟨_, printer_eq_spec o v ind, spec_interleave o v ind⟩

/-- … and the compact output is that token sequence with no whitespace at all. -/
theorem C04_compact_is_tokens (v : JValue) (ind : Nat) :
    printWith Gen.compactPreset ind v = some (toks v).flatten := by
  rw [printWith_compact isCompact_compactPreset, refSerialize_flatten]

/-! Non-vacuity, and one kernel-evaluated round trip through the model of the strict parser. -/
def demo : JValue :=
  .object [(['a', '"'], .array [.number "-1.50E+3".toList, .string ['\n', Char.ofNat 0x1F600], .object []]),
           (['a', '"'], .bool true)]

example : NumsOk demo := by
  refine ⟨⟨?_, trivial, trivial, trivial⟩, trivial, trivial⟩
  have := GNumber.neg ['1'] ['.', '5', '0'] ['E', '+', '3'] (.nz '1' [] (by decide) (by intro c h; cases h))
    (.some '5' ['0'] (by decide) (by intro c h; simp at h; subst h; decide))
    (.signed 'E' '+' '3' [] (by decide) (.inl rfl) (by decide) (by intro c h; cases h))
  simpa [NumsOk] using this

example : (printWith Gen.prettyPreset 0 demo).map (fun t => isOk (parseStr ⟨false, false⟩ t)) = some true := by
  unfold parseStr; simp only [← parseCharsF_eq]; decide +kernel

end JsonVerif.C04
