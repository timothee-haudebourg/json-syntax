import JsonVerif.Lemmas.Macro
/-!
# C19 — The json! macro builds the same value as parsing the same literal text

Statement: for any JSON document written as a json! literal (nested arrays and objects, optional
trailing commas, string, integer, float, boolean and null literals, parenthesized or expression
keys, duplicate keys) the value constructed by the macro equals the value obtained by parsing the
corresponding JSON text, with entries in written order and duplicates preserved.

`Doc` = such documents; `docTok d` = the token tree handed to `json!`; `docValue d` = the value
the same text denotes as JSON (by C02 that is what parsing the text yields); `expandJson` = model of
the `macro_rules!` TT munchers of src/macros.rs.
-/
namespace JsonVerif.C19

/-- **C19** on the model of the macro: every document, any nesting depth, any mix of trailing
    commas and key styles. `env` binds the variables used as parenthesized keys. -/
theorem C19_macro (env : List Char → Option (List Char)) (d : Doc) (h : EnvOk env d) :
    expandJson env [docTok d] = some (docValue d) := expandTok_doc env d h

/-- Entries come out in written order with duplicates preserved (no de-duplication anywhere:
    `Object::from_vec` — C06 — keeps the vector as given). -/
theorem C19_order_and_duplicates (env : List Char → Option (List Char))
    (es : List (KeyStyle × List Char × Doc)) (tr : Bool) (h : EnvOkM env es) :
    expandJson env [docTok (.obj es tr)] = some (.object (entriesValues es)) :=
  expandTok_doc env (.obj es tr) h

/-- A trailing comma changes nothing. -/
theorem C19_trailing_comma (env : List Char → Option (List Char)) (items : List Doc) (h : EnvOkL env items) :
    expandJson env [docTok (.arr items true)] = expandJson env [docTok (.arr items false)] := by
  rw [C19_macro env (.arr items true) h, C19_macro env (.arr items false) h]; rfl

/-- What is not a JSON literal is not silently accepted by the literal rules: a stray comma or a
    missing comma matches no element rule (rustc reports an error; `none` in the model). -/
theorem C19_rejects :
    expandJson (fun _ => none) [.bracket [.comma]] = none ∧
    expandJson (fun _ => none) [.bracket [.null, .null]] = none ∧
    expandJson (fun _ => none) [.brace [.lit (.str ['a']), .null]] = none := by
  decide +kernel

/-! Non-vacuity: a concrete document with every feature (kernel-evaluated through `expandJson`). -/
def demo : Doc :=
  .obj [(.lit, ['a'], .arr [.int 1, .str ['s'], .null, .bool true, .arr [] true, .obj [] false] true),
        (.var ['k'], ['x'], .float "1.5".toList "1.5".toList),
        (.paren, ['a'], .obj [(.lit, ['b'], .bool false)] true)] true
example : EnvOk (fun x => if x = ['k'] then some ['x'] else none) demo := by
  simp [demo, EnvOk, EnvOkM, EnvOkL]

end JsonVerif.C19
