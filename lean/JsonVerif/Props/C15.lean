import JsonVerif.Lemmas.UnorderedComplete
/-!
# C15 — Unordered equality is exactly equality up to permutation of object entries

Statement: unordered comparison holds between two values if and only if one can be turned into the
other by permuting object entries at any depth: arrays stay ordered, scalars must be equal, and
entries with duplicate keys are matched one-to-one so multiplicities count. It is an equivalence
relation and is implied by ordinary equality.

`PermEq` (Spec/PermEq.lean) is that relation; `ueq` (Model/Unordered.lean) is the code.
-/
namespace JsonVerif.C15
open JsonVerif

/-- **Exactly equality up to permutation**, full statement, for all values, any nesting, any
    duplicates: `unordered_eq` holds if and only if one value can be turned into the other by
    permuting object entries at any depth (entries matched one-to-one). -/
theorem C15_exact (a b : JValue) : ueq a b = true ↔ PermEq a b := ueq_iff a b

/-- **It is an equivalence relation**: reflexive (`C15_of_eq`), symmetric, transitive. -/
theorem C15_equivalence :
    (∀ a, ueq a a = true) ∧ (∀ a b, ueq a b = true → ueq b a = true) ∧
    (∀ a b c, ueq a b = true → ueq b c = true → ueq a c = true) :=
  ⟨ueq_refl,
   fun a b h => (ueq_iff b a).mpr (PermEq.symm a b ((ueq_iff a b).mp h)),
   fun a b c h1 h2 => (ueq_iff a c).mpr (PermEq.trans a b c ((ueq_iff a b).mp h1) ((ueq_iff b c).mp h2))⟩

/-- **Soundness** (for all values, any nesting, any duplicates): `unordered_eq` never relates two
    values that are not equal up to a one-to-one permutation of object entries at every depth. -/
theorem C15_sound_partial (a b : JValue) (h : ueq a b = true) : PermEq a b := ueq_sound a b h

/-- Implied by ordinary equality (reflexivity of the implementation). -/
theorem C15_of_eq (a b : JValue) (h : a = b) : ueq a b = true := by rw [h]; exact ueq_refl b

/-! Multiplicities count (kernel-evaluated on the model), and a positive case. -/
def k1 : List Char × JValue := (['k'], .number ['1'])
def k2 : List Char × JValue := (['k'], .number ['2'])
example : ueq (.object [k1, k1, k2]) (.object [k1, k2, k2]) = false := by decide +kernel
example : ueq (.object [k1, k2, k2]) (.object [k1, k1, k2]) = false := by decide +kernel
example : ueq (.object [k1, k2, (['j'], .object [k2, k1])]) (.object [(['j'], .object [k1, k2]), k2, k1]) = true := by
  decide +kernel
example : ueq (.array [.number ['1'], .number ['2']]) (.array [.number ['2'], .number ['1']]) = false := by
  decide +kernel

end JsonVerif.C15
