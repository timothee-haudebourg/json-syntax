import JsonVerif.Lemmas.Conservative
import JsonVerif.Lemmas.Steps
import JsonVerif.Model.Entry
import JsonVerif.Gen.ParsePresets
import JsonVerif.Lemmas.LHub
/-!
# C12 — Lenient options: conservative extension relaxing only surrogate escapes

Statement: any document accepted in strict mode parses to the identical value and code map under
every option combination. Enabling the lenient options makes the parser accept only documents
that are strict-valid except for \u escapes denoting unpaired high surrogates (truncated-pair
option) or lone low surrogates (invalid-code-point option); each such escape decodes to exactly
one U+FFFD, correctly paired surrogates still combine into one scalar, and each option acts
independently of the other.
-/
namespace JsonVerif.C12

/-- The presets regenerated from src/parse/mod.rs: `strict()` is all-false, `default()` is strict,
    `flexible()` is all-true. -/
theorem C12_presets :
    Gen.strictPreset = strictOpts ∧ Gen.defaultPreset = Gen.strictPreset ∧
    Gen.flexiblePreset = ⟨true, true⟩ := by decide

/-- **Conservative extension** (first sentence of the property), for every character stream —
    well-formed or ending in a decoding error — and every option record: same value, same code map. -/
theorem C12_conservative (o : ParseOptions) (cs : List Char) (bad : Bool)
    (r : JValue × List CMEntry) (h : parseChars strictOpts cs bad = .ok r) :
    parseChars o cs bad = .ok r := by
  obtain ⟨v, s, hv, hr⟩ := parseChars_ok.1 h
  exact parseChars_ok.2 ⟨v, s, run_mono hv, hr⟩

theorem C12_conservative_str (o : ParseOptions) (cs : List Char) (r : JValue × List CMEntry)
    (h : parseStr strictOpts cs = .ok r) : parseStr o cs = .ok r :=
  C12_conservative o cs false r h

theorem C12_conservative_slice (o : ParseOptions) (b : List UInt8) (r : JValue × List CMEntry)
    (h : parseSlice strictOpts b = .ok r) : parseSlice o b = .ok r :=
  C12_conservative o _ _ r h

/-- **Exactness** (second sentence of the property), at the only place where the options are
    consulted — the string scanner, for values and keys alike: under ANY option record the scanner
    accepts a string literal and returns `str` if and only if the literal is an `LString o`
    (Spec/Lenient.lean) denoting `str`. `LString o` is the RFC 8259 `string` production extended by
    exactly two element kinds: a high-surrogate escape not directly followed by a low-surrogate
    escape (iff `accept_truncated_surrogate_pair`) and a low-surrogate escape not preceded by a high
    one (iff `accept_invalid_codepoints`), each denoting exactly one U+FFFD; a high escape directly
    followed by a low escape is one scalar value under every option record. -/
theorem C12_string_exact (o : ParseOptions) (s : PS) (str r : List Char) :
    (∃ s', lexString o s = .ok (str, s') ∧ s'.rest = r) ↔ ∃ t, s.rest = t ++ r ∧ LString o t str :=
  lexString_iff o s str r

/-- With both options off the lenient string body is the RFC 8259 one: `LBody` adds nothing. -/
theorem C12_strict_adds_nothing (t cs : List Char) : LBody ⟨false, false⟩ t cs ↔ GBody t cs :=
  ⟨LBody.strict, GBody.lenient _⟩

/-- The two options act independently and monotonically: switching an option on never changes the
    meaning of a string that was already accepted (each rule mentions exactly one option). -/
theorem C12_monotone (o o' : ParseOptions) (ht : o.trunc = true → o'.trunc = true)
    (hi : o.inval = true → o'.inval = true) (t cs : List Char) (h : LBody o t cs) : LBody o' t cs := by
  induction h with
  | nil => exact .nil
  | elem t c ts cs he _ ih => exact .elem t c ts cs he ih
  | loneHigh a b c d hi' ts cs h0 h1 h2 h3 _ ih => exact .loneHigh a b c d hi' ts cs (ht h0) h1 h2 h3 ih
  | loneLow a b c d lo ts cs h0 h1 h2 _ ih => exact .loneLow a b c d lo ts cs (hi h0) h1 h2 ih

/-- an unpaired high surrogate needs `accept_truncated_surrogate_pair`, whatever the other option -/
theorem C12_lone_high_needs_trunc (i : Bool) (a b c d : Char) (hi : Nat) (h1 : hexCp a b c d = some hi)
    (h2 : isHigh hi = true) (cs : List Char) : ¬ LBody ⟨false, i⟩ ['\\', 'u', a, b, c, d] cs := by
  intro h
  generalize ht : (['\\', 'u', a, b, c, d] : List Char) = t at h
  cases h with
  | nil => cases ht
  | elem t c1 ts cs1 he hb =>
    -- the first element would be `\uXXXX` itself, and a high surrogate is no scalar value
    cases he with
    | raw c2 _ r2 => cases ht; exact r2 rfl
    | esc e ch e1 => cases ht; exact e1 rfl
    | u a1 b1 c2 d1 cp ch u1 u2 =>
      cases ht
      rw [h1] at u1; cases u1
      rw [h2] at u2; cases u2
    | pair => cases ht
  | loneHigh a1 b1 c1 d1 hi1 ts cs1 h0 => cases h0
  | loneLow a1 b1 c1 d1 lo ts cs1 h0 l1 l2 hb =>
    cases ht
    rw [h1] at l1; cases l1
    cases h2.symm.trans (isLow_not_high l2)

/-- **Exactness at the document level** (second sentence of the property, whole documents): under
    ANY option record `o` the parser accepts a text with value `v` if and only if the text is an
    `LDoc o` (Spec/LGrammar.lean) with content `v` — the RFC 8259 grammar of Spec/Grammar.lean, word
    for word, in which every string (value or key, at any depth) is an `LString o` literal. So what
    the lenient options add is exactly: documents that are strict-valid except for unpaired
    high-surrogate escapes (truncated-pair option) and lone low-surrogate escapes (invalid-code-point
    option), each decoded to one U+FFFD. Both directions, every text, every record, no bound (hub
    theorems `machine_eq_rd`, `Len.rd_sound`, `Len.rd_complete`). -/
theorem C12_document_exact (o : ParseOptions) (cs : List Char) (v : JValue) :
    (∃ cm, parseStr o cs = .ok (v, cm)) ↔ LDoc o cs v :=
  accepts_iff_o o cs v

theorem C12_strict_is_rfc8259 (cs : List Char) (v : JValue) : LDoc ⟨false, false⟩ cs v ↔ GDoc cs v :=
  ldoc_strict cs v

/-- Every RFC 8259 text keeps its content under every record, and the content of a text under a
    record is unique. -/
theorem C12_document_conservative (o : ParseOptions) (cs : List Char) (v : JValue) (h : GDoc cs v) :
    LDoc o cs v ∧ ∀ v', LDoc o cs v' → v' = v :=
  ⟨gdoc_ldoc o h, fun _ h' => ldoc_unique o h' (gdoc_ldoc o h)⟩

/-! Non-vacuity of the lenient grammar: a lone high surrogate in a key and a lone low surrogate in
    a value, accepted with one U+FFFD each under the record that allows both. -/
example : LDoc ⟨true, true⟩ "{\"\\ud800k\":[\"\\udc00\"]}".toList
    (.object [([fffd, 'k'], .array [.string [fffd]])]) := by
  apply (C12_document_exact _ _ _).1
  unfold parseStr; rw [← parseCharsF_eq]; exact ⟨_, rfl⟩

/-! Non-vacuity: a strict-valid document with a surrogate pair and duplicate keys. -/
example : ∃ r, parseStr strictOpts "{\"a\":\"\\ud834\\udd1e\",\"a\":[1e2]}".toList = .ok r := by
  unfold parseStr; rw [← parseCharsF_eq]; exact ⟨_, rfl⟩

end JsonVerif.C12
