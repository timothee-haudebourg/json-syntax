import JsonVerif.Lemmas.CanonNum
import JsonVerif.Lemmas.Hub
import JsonVerif.Lemmas.Steps
import JsonVerif.Lemmas.PrintOneLine
/-!
# C10 — Canonical form is idempotent, blind to member order, spacing, number spelling

Statement: canonicalization is idempotent, and two documents that differ only in whitespace, in
the order of members at any level, in how string characters are escaped, or in numerically equal
spellings of numbers have byte-identical canonical output. Canonicalization changes nothing else:
structure, strings, booleans and nulls are preserved, each number keeps its double value, and the
object stays fully queryable by key afterwards.
-/
namespace JsonVerif.C10
open JsonVerif

/-- **Idempotent**, provided the number canonicalizer is (hypothesis on the opaque `nc`). -/
theorem C10_idempotent (nc : List Char → List Char) (hnc : ∀ n, nc (nc n) = nc n) (v : JValue) :
    canon nc (canon nc v) = canon nc v := canon_idem nc hnc v

/-- **Blind to member order at any level**: two values that differ only by permutations of object
    entries at any depth (the relation `PermEq` of C15) canonicalize to the same value. -/
theorem C10_member_order (nc : List Char → List Char) (a b : JValue) (h : PermEq a b) :
    canon nc a = canon nc b := canon_permEq nc h

/-- In particular for one object and any permutation of its entries. -/
theorem C10_permutation (nc : List Char → List Char) (es es' : List (List Char × JValue))
    (h : es.Perm es') : canon nc (.object es) = canon nc (.object es') := by
  rw [canon, canon, canonM_eq_map, canonM_eq_map, sortCanon_perm_eq (h.map _)]

/-- **Blind to number spelling**, provided `nc` identifies numerically equal spellings
    (hypothesis on the opaque `nc`): two spellings with the same image under `nc` have the same
    canonical form. For whole values see `C10_order_and_numbers`. -/
theorem C10_number_spelling (nc : List Char → List Char) (n m : List Char) (h : nc n = nc m) :
    canon nc (.number n) = canon nc (.number m) := by simp [canon, h]

/-- **Nothing else changes**: strings, booleans, nulls are untouched; arrays keep their length and
    order; an object keeps its number of members and its multiset of keys. -/
theorem C10_preserves (nc : List Char → List Char) :
    canon nc .null = .null ∧ (∀ b, canon nc (.bool b) = .bool b) ∧
    (∀ s, canon nc (.string s) = .string s) ∧
    (∀ xs, canon nc (.array xs) = .array (xs.map (canon nc))) ∧
    (∀ es, ∃ l, canon nc (.object es) = .object l ∧ l.length = es.length ∧
        (l.map (·.1)).Perm (es.map (·.1))) := by
  refine ⟨rfl, fun _ => rfl, fun _ => rfl, ?_, ?_⟩
  · intro xs; rw [canon, canonL_eq_map]
  · intro es
    refine ⟨_, rfl, ?_, ?_⟩
    · rw [List.length_mergeSort, canonM_eq_map, List.length_map]
    · have := (List.mergeSort_perm (canonM nc es) canonEntryLe).map (·.1)
      rw [canonM_eq_map] at this ⊢
      simpa [List.map_map, Function.comp_def] using this

/-- **Member order and number spelling together, at every depth**: two values that become equal up
    to the order of entries (`PermEq`) once each number is replaced by the spelling `nc` gives it
    have the same canonical form — for an idempotent `nc` (hypothesis on the opaque number
    canonicalizer). -/
theorem C10_order_and_numbers (nc : List Char → List Char) (hnc : ∀ n, nc (nc n) = nc n)
    (a b : JValue) (h : SameUpToOrderAndNumbers nc a b) : canon nc a = canon nc b :=
  canon_blind nc hnc h

/-- **Documents**: whitespace and the way string characters are escaped are not part of a
    document's content (`GDoc text v` relates every spelling of a document to the one value it
    denotes). So for two documents whose contents are equal up to member order and number
    spelling — in particular two spellings of the SAME content — parsing (under any option record)
    succeeds on both and canonicalize-then-print gives byte-identical output. -/
theorem C10_documents (o : ParseOptions) (nc : List Char → List Char) (hnc : ∀ n, nc (nc n) = nc n)
    (d₁ d₂ : List Char) (v₁ v₂ : JValue) (h₁ : GDoc d₁ v₁) (h₂ : GDoc d₂ v₂)
    (h : SameUpToOrderAndNumbers nc v₁ v₂) :
    ∃ cm₁ cm₂, parseStr o d₁ = .ok (v₁, cm₁) ∧ parseStr o d₂ = .ok (v₂, cm₂) ∧
      printWith Gen.compactPreset 0 (canon nc v₁) = printWith Gen.compactPreset 0 (canon nc v₂) := by
  obtain ⟨cm₁, e₁⟩ := parse_complete o h₁
  obtain ⟨cm₂, e₂⟩ := parse_complete o h₂
  exact ⟨cm₁, cm₂, e₁, e₂, by rw [canon_blind nc hnc h]⟩

/-- Two spellings of the same content (whitespace, escapes): same parsed value. -/
theorem C10_whitespace_and_escapes (o : ParseOptions) (d₁ d₂ : List Char) (v : JValue)
    (h₁ : GDoc d₁ v) (h₂ : GDoc d₂ v) :
    ∃ cm₁ cm₂, parseStr o d₁ = .ok (v, cm₁) ∧ parseStr o d₂ = .ok (v, cm₂) := by
  obtain ⟨cm₁, e₁⟩ := parse_complete o h₁
  obtain ⟨cm₂, e₂⟩ := parse_complete o h₂
  exact ⟨cm₁, cm₂, e₁, e₂⟩

/-! Non-vacuity: the hypotheses are satisfiable (an idempotent `nc`; two different values related
    by a permutation one level down). -/
example : ∀ n : List Char, id (id n) = id n := fun _ => rfl
example : PermEq (.array [.object [(['b'], .number ['1']), (['a'], .null)]])
                 (.array [.object [(['a'], .null), (['b'], .number ['1'])]]) :=
  .array (.cons (.object (PermEqM.cons (b1 := [(['a'], .null)]) (b2 := []) (.number _)
    (PermEqM.cons (b1 := []) (b2 := []) .null .nil))) .nil)

/-! … and two different spellings of one content (whitespace, `\u0061` for `a`, `\/` for `/`),
    kernel-evaluated on the model of the parser. -/
example :
    ((parseChars ⟨false, false⟩ " { \"\\u0061\" : [ 1 , \"\\/\" ] } ".toList false).toOption.map (fun r => JValue.beq r.1
        (.object [(['a'], .array [.number ['1'], .string ['/']])])) = some true) ∧
    ((parseChars ⟨false, false⟩ "{\"a\":[1,\"/\"]}".toList false).toOption.map (fun r => JValue.beq r.1
        (.object [(['a'], .array [.number ['1'], .string ['/']])])) = some true) := by
  rw [← parseCharsF_eq, ← parseCharsF_eq]; decide +kernel

end JsonVerif.C10
