import JsonVerif.Lemmas.Spans
import JsonVerif.Lemmas.MappedKeyed
import JsonVerif.Lemmas.TryFrom
import JsonVerif.Model.Entry
/-!
# C11 — Code-map offsets navigate correctly (mapped iterators, fragment index, TryFrom)

Statement: given a parsed value and its code map, the mapped iterators over arrays and objects and
the key-based mapped lookups yield, for every item, entry, key and value, the code-map index whose
span is exactly that element's source text; looking up fragment i returns the i-th fragment of the
traversal and indices past the end are rejected with the remaining distance; volume and counting
agree with the traversal. Conversions that carry code-map information report a kind mismatch at
the index of the offending fragment.

Setting: `preV root` is the pre-order list of fragments (entry i of a well-formed code map belongs
to fragment i — C05) and the volume column of the code map is `volsV root`. The statements about
offsets take the container's own slice of that column as hypothesis:
`volumes cm = pre ++ volsV container ++ post`, the container being fragment number `pre.length`;
`get_fragment` and the traversal involve no code map.
-/
namespace JsonVerif.C11

/-- **Array `iter_mapped`** never panics and yields for the k-th item the offset
    `off + 1 + Σ_{j<k} fragments(item j)` … -/
theorem C11_array (cm : List CMEntry) (xs : List JValue) (pre post : List Nat)
    (h : volumes cm = pre ++ volsV (.array xs) ++ post) :
    arrayMapped cm pre.length xs = some (offsetsL (pre.length + 1) xs) :=
  arrayMappedFrom_eq cm xs _ (At.of_eq h).tail

/-- … and the fragment found at that offset in the pre-order is exactly that item. -/
theorem C11_array_fragments (xs : List JValue) (preT postT : List Frag) :
    (offsetsL (preT.length + 1) xs).map (fun i => (preT ++ preV (.array xs) ++ postT)[i]?) =
      xs.map (fun x => some (Frag.value x)) :=
  poL_offsets xs _ _ (At.of_eq rfl).tail

/-- **Object `iter_mapped`**: the triple (entry, key, value) = (o, o+1, o+2) with
    `o = off + 1 + Σ_{j<k} (2 + fragments(value j))`; never panics. -/
theorem C11_object (cm : List CMEntry) (es : List (Key × JValue)) (pre post : List Nat)
    (h : volumes cm = pre ++ volsV (.object es) ++ post) :
    objectMapped cm pre.length es = some (offsetsM (pre.length + 1) es) :=
  objectMappedFrom_eq cm es _ (At.of_eq h).tail

/-- **`get_fragment i`** is the i-th fragment of the pre-order when `i` is in range, and otherwise
    `Err(i − number of fragments)`. -/
theorem C11_get_fragment (v : JValue) (i : Nat) :
    getFragment v i =
      if h : i < (preV v).length then .inl ((preV v)[i]) else .inr (i - (preV v).length) :=
  getFragment_nth v i

/-- **Traversal** (explicit stack, one step per fragment) yields exactly the pre-order; the number
    of fragments is the length a well-formed code map has. -/
theorem C11_traverse (v : JValue) : traverse v = preV v ∧ (traverse v).length = v.frags := by
  have e : ([Frag.value v].map preF).flatten = preV v := List.append_nil _
  have h : traverse v = preV v := by
    rw [traverse, traverseFuel_eq _ _ (by rw [e, preV_length]; exact Nat.le_refl _), e]
  exact ⟨h, h ▸ preV_length v⟩

theorem C11_volumes_length (v : JValue) : (volsV v).length = (preV v).length := by
  rw [volsV_length, preV_length]

/-- **On parsed documents** the hypothesis of the navigation theorems holds (C05: the volume column
    of the parser's code map is `volsV`), so for every document the strict parser accepts, the mapped
    iterators over the root container return exactly the fragment offsets — parser and navigation
    compose. -/
theorem C11_parsed_array (cs : List Char) (xs : List JValue) (cm : List CMEntry)
    (h : parseStr ⟨false, false⟩ cs = .ok (.array xs, cm)) :
    arrayMapped cm 0 xs = some (offsetsL 1 xs) :=
  arrayMappedFrom_eq cm xs _ (At.zero (parse_volumes h)).tail

theorem C11_parsed_object (cs : List Char) (es : List (Key × JValue)) (cm : List CMEntry)
    (h : parseStr ⟨false, false⟩ cs = .ok (.object es, cm)) :
    objectMapped cm 0 es = some (offsetsM 1 es) :=
  objectMappedFrom_eq cm es _ (At.zero (parse_volumes h)).tail

/-- **Typed conversions** (`TryFromJson` for bool / String / unit / u8, `Vec<T>`, `BTreeMap<String,T>`,
    `Option<T>`, `Box<T>`, nested at will): on a well-formed code map the conversion never panics
    and is the fragment-counting specification `convSpec` … -/
theorem C11_conversion (cm : List CMEntry) (t : CTy) (v : JValue) (pre post : List Nat)
    (h : volumes cm = pre ++ volsV v ++ post) :
    tryFrom cm t v pre.length = some (convSpec t v pre.length) := tryFrom_eq cm t v pre post h

/-- … and when it fails, the reported offset is that of the offending fragment: `offset` plus the
    pre-order index of a value fragment which the sub-conversion reaching it rejects at its root
    (wrong kind, or not a `u8`). -/
theorem C11_conversion_error (t : CTy) (v : JValue) (off e : Nat) (h : convSpec t v off = .error e) :
    ∃ i w t', e = off + i ∧ (preV v)[i]? = some (.value w) ∧ headOk t' w = false :=
  convSpec_bad t v off e h

/-- On parsed documents (C05 supplies the hypothesis). -/
theorem C11_parsed_conversion (cs : List Char) (v : JValue) (cm : List CMEntry) (t : CTy)
    (h : parseStr ⟨false, false⟩ cs = .ok (v, cm)) : tryFrom cm t v 0 = some (convSpec t v 0) :=
  tryFrom_at cm t v 0 (At.zero (parse_volumes h))

/-- **Keyed mapped lookups** (`get_mapped*`, `get_unique_mapped*`, `get_mapped_entries*`): under the
    C06 invariant (which every reachable object satisfies: C06_reachable) and a well-formed volume
    column, they never panic and yield, for exactly the entries carrying the key and in entry
    order, the entry index and the offsets of the entry, its key and its value … -/
theorem C11_keyed (cm : List CMEntry) (o : Obj) (hinv : Inv o) (pre post : List Nat) (k : Key)
    (h : volumes cm = pre ++ volsV (.object o.entries) ++ post) :
    mappedEntries cm pre.length o k =
      some ((posOf k o.entries).map (fun i =>
        (i, entryOff (pre.length + 1) o.entries i, entryOff (pre.length + 1) o.entries i + 1,
          entryOff (pre.length + 1) o.entries i + 2))) := mappedEntries_eq cm o hinv pre post k h

/-- … which are the very offsets `iter_mapped` assigns to entry `i`. -/
theorem C11_keyed_offsets (es : List (Key × JValue)) (o i : Nat) (hi : i < es.length) :
    (offsetsM o es)[i]? = some (entryOff o es i, entryOff o es i + 1, entryOff o es i + 2) :=
  offsetsM_entryOff es o i hi

/-! Non-vacuity: the repository's `mapped_entries` unit test, on the model. -/
example :
    let v : JValue := .object [(['0'], .array [.null, .null]), (['1'], .object [(['f'], .number ['0']), (['b'], .number ['1'])]), (['0'], .null)]
    objectMapped ((volsV v).map (fun n => ⟨0, 0, n⟩)) 0 [(['0'], .array [.null, .null]), (['1'], .object [(['f'], .number ['0']), (['b'], .number ['1'])]), (['0'], .null)]
      = some [(1, 2, 3), (6, 7, 8), (15, 16, 17)] := by decide +kernel

end JsonVerif.C11
