import JsonVerif.Lemmas.ErrAt
import JsonVerif.Lemmas.Steps
import JsonVerif.Model.Entry
import JsonVerif.Lemmas.Hub
import JsonVerif.Lemmas.Viable
import JsonVerif.Lemmas.RunComplete
/-!
# C07 — Parse errors point at the first offending character

Statement: when strict parsing fails with an unexpected-character error, the reported byte offset
equals the length of the longest prefix of the input that can still be extended to a text matching
the RFC 8259 grammar (any \uXXXX escape syntactically allowed), and the reported character is the
input character at that offset (none exactly when the offset is the input length). Ill-formed
UTF-8 in byte input is reported at the offset of the first ill-formed sequence unless a syntax
error occurs strictly before it; surrogate errors carry the offending code units and a span lying
inside the offending escape sequence(s). All reported offsets are character boundaries within the
input.
-/
namespace JsonVerif.C07
open JsonVerif

/-- **Boundary clause, all errors, all option records**: every offset carried by an error is the
    UTF-8 length of a prefix of the input (a character boundary inside the input); spans are
    ordered; an `Unexpected(p, c)` carries exactly the character of the input found at offset `p`,
    and `None` exactly when `p` is the end of the input; a stream error (→ `InvalidUtf8` for byte
    slices) is reported at the end of the well-formed characters delivered before the failure. -/
theorem C07_boundary_partial (o : ParseOptions) (cs : List Char) (bad : Bool) (e : PErr)
    (h : parseChars o cs bad = .error e) : ErrOk cs 0 bad e :=
  run_err (parseChars_error.1 h)

theorem C07_unexpected (o : ParseOptions) (cs : List Char) (bad : Bool) (p : Nat) (c : Option Char)
    (h : parseChars o cs bad = .error (.unexpected p c)) :
    ∃ pre rest, cs = pre ++ rest ∧ p = utf8Len pre ∧ c = rest.head? := by
  obtain ⟨w, r, e, q, hc⟩ := C07_boundary_partial o cs bad _ h
  exact ⟨w, r, e, by simpa using q, hc⟩

/-- `None` is reported exactly at the end of the input. -/
theorem C07_eof (o : ParseOptions) (cs : List Char) (bad : Bool) (p : Nat) (c : Option Char)
    (h : parseChars o cs bad = .error (.unexpected p c)) : c = none ↔ p = utf8Len cs := by
  obtain ⟨pre, rest, e, q, hc⟩ := C07_unexpected o cs bad p c h
  subst e q hc
  cases rest with
  | nil => simp
  | cons a r =>
    have := utf8Size_pos a
    simp only [List.head?_cons, reduceCtorEq, utf8Len_append, utf8Len_cons, false_iff]
    omega

/-- Ill-formed UTF-8 (stream error): reported at the offset where the well-formed prefix ends,
    i.e. at the first ill-formed sequence — this *is* `valid_up_to` — and only for failing input. -/
theorem C07_invalid_utf8 (o : ParseOptions) (b : List UInt8) (p : Nat)
    (h : parseSlice o b = .error (.stream p)) :
    (utf8Dec b).2 = true ∧ p = utf8Len (utf8Dec b).1 := by
  simpa [ErrOk] using C07_boundary_partial o _ _ _ h

/-- Surrogate errors: both ends of the span are character boundaries inside the input, in order. -/
theorem C07_surrogate_spans (o : ParseOptions) (cs : List Char) (bad : Bool) (s e hi cp : Nat)
    (h : parseChars o cs bad = .error (.missingLow s e hi) ∨
         parseChars o cs bad = .error (.invalidLow s e hi cp) ∨
         parseChars o cs bad = .error (.invalidCodePoint s e cp)) :
    Bdry cs 0 s ∧ Bdry cs 0 e ∧ s ≤ e := by
  rcases h with h | h | h <;> exact C07_boundary_partial o cs bad _ h

/-- An error is never reported for a valid document (completeness of the strict parser, read
    backwards): whenever strict parsing of a well-formed character stream fails — with whatever
    error — the text is not an RFC 8259 JSON-text. Together with the boundary clause: the reported
    offset is a character boundary of a text that really is invalid. -/
theorem C07_error_only_if_invalid (cs : List Char) (e : PErr)
    (h : parseStr ⟨false, false⟩ cs = .error e) : ¬ ∃ v, GDoc cs v := by
  rintro ⟨v, hg⟩
  obtain ⟨cm, hc⟩ := parse_complete so hg
  unfold parseStr at h
  rw [hc] at h
  cases h

theorem C07_viable_prefix_closed (a b : List Char) (h : Viable (a ++ b)) : Viable a := by
  obtain ⟨suffix, v, hd⟩ := h
  exact ⟨b ++ suffix, v, by simpa using hd⟩

/-- Both bounds at the split `cs = pre ++ rest` that the error reports: `C07_prefix_viable`,
    `C07_no_longer_prefix_viable` and `C07_longest_viable_prefix` below are projections of this. -/
theorem unexpected_viable {cs : List Char} {p : Nat} {c : Option Char}
    (h : parseChars ⟨false, false⟩ cs false = .error (.unexpected p c)) :
    ∃ pre rest, cs = pre ++ rest ∧ p = utf8Len pre ∧ c = rest.head? ∧ Viable pre ∧
      ∀ a, rest.head? = some a → ¬ Viable (pre ++ [a]) := by
  obtain ⟨pre, rest, e, hp, hc⟩ := C07_unexpected _ cs false p c h
  subst e hp
  refine ⟨pre, rest, rfl, rfl, hc, viable_before pre rest c h, ?_⟩
  rintro a ha ⟨suffix, v, hd⟩
  cases rest with
  | nil => cases ha
  | cons b rest =>
    cases ha
    subst hc
    exact not_viable_beyond pre a rest h suffix v (by simpa using hd)

/-- **Upper bound of the viable prefix** (half of the first clause): when strict parsing fails
    with an unexpected-character error at offset `p` on the character `a`, the input up to and
    including `a` is NOT viable — no continuation of it is a JSON text, even with every `\uXXXX`
    escape allowed. So the longest viable prefix is at most `p` bytes long. -/
theorem C07_no_longer_prefix_viable (cs : List Char) (p : Nat) (a : Char)
    (h : parseChars ⟨false, false⟩ cs false = .error (.unexpected p (some a))) :
    ∃ pre rest, cs = pre ++ a :: rest ∧ p = utf8Len pre ∧ ¬ Viable (pre ++ [a]) := by
  obtain ⟨pre, rest, e, hp, hc, _, hn⟩ := unexpected_viable h
  cases rest with
  | nil => cases hc
  | cons b rest =>
    cases hc
    exact ⟨pre, rest, e, hp, hn a rfl⟩

theorem C07_error_is_local (o : ParseOptions) (pre : List Char) (a : Char) (rest rest' : List Char)
    (h : parseChars ⟨false, false⟩ (pre ++ a :: rest) false = .error (.unexpected (utf8Len pre) (some a))) :
    parseChars o (pre ++ a :: rest') false = .error (.unexpected (utf8Len pre) (some a)) :=
  parse_error_local o pre a rest rest' h

/-- **Lower bound of the viable prefix** (the other half): the input before the reported offset IS
    viable — some continuation of it is a JSON text. -/
theorem C07_prefix_viable (cs : List Char) (p : Nat) (c : Option Char)
    (h : parseChars ⟨false, false⟩ cs false = .error (.unexpected p c)) :
    ∃ pre rest, cs = pre ++ rest ∧ p = utf8Len pre ∧ Viable pre :=
  have ⟨pre, rest, e, hp, _, hv, _⟩ := unexpected_viable h
  ⟨pre, rest, e, hp, hv⟩

/-- **The first clause of the property in full**: when strict parsing fails with an
    unexpected-character error, the reported byte offset is the length of the LONGEST prefix of the
    input that can still be extended to a text of the grammar in which any `\uXXXX` escape is
    allowed: that prefix is viable, and the prefix one character longer is not (hence no longer
    one is: a prefix of a viable prefix is viable, `C07_viable_prefix_closed`). -/
theorem C07_longest_viable_prefix (cs : List Char) (p : Nat) (c : Option Char)
    (h : parseChars ⟨false, false⟩ cs false = .error (.unexpected p c)) :
    ∃ pre rest, cs = pre ++ rest ∧ p = utf8Len pre ∧ Viable pre ∧
      (∀ a, rest.head? = some a → ¬ Viable (pre ++ [a])) :=
  have ⟨pre, rest, e, hp, _, hv, hn⟩ := unexpected_viable h
  ⟨pre, rest, e, hp, hv, hn⟩

/-- **Surrogate errors blame exactly the escape(s) at fault** (last clause), for every input and
    option record. `EscAt cs 0 s e cu` = the input contains an escape `\uXXXX` writing the code unit
    `cu`, and `[s, e)` is exactly its `uXXXX` part (`e = s + 5`; reported spans start at the `u`).
    * `MissingLowSurrogate(s, e, hi)`: the span is the escape that wrote the high surrogate `hi`;
    * `InvalidLowSurrogate(s, e, hi, cu)`: the span is the escape that wrote `cu`, and `hi` was
      written by the escape directly before it (`[s-6, s-1)`);
    * `InvalidUnicodeCodePoint(s, e, cu)`: the span is the escape that wrote `cu`.
    (The fourth place where the code can raise `InvalidUnicodeCodePoint` — a combined pair that is
    not a scalar value — is unreachable: `ofCp_pair_some`.) -/
theorem C07_surrogate_inside (o : ParseOptions) (cs : List Char) (bad : Bool) :
    (∀ s e hi, parseChars o cs bad = .error (.missingLow s e hi) → EscAt cs 0 s e hi) ∧
    (∀ s e hi cu, parseChars o cs bad = .error (.invalidLow s e hi cu) →
      EscAt cs 0 s e cu ∧ 6 ≤ s ∧ EscAt cs 0 (s - 6) (s - 1) hi) ∧
    (∀ s e cu, parseChars o cs bad = .error (.invalidCodePoint s e cu) → EscAt cs 0 s e cu) := by
  have key : ∀ e, parseChars o cs bad = .error e → ErrIn cs 0 e := fun e h =>
    run_in (parseChars_error.1 h)
  exact ⟨fun s e hi h => key _ h, fun s e hi cu h => key _ h, fun s e cu h => key _ h⟩

/-! Non-vacuity (kernel-evaluated): an unexpected-character error inside an array, and a surrogate
    error with its span. -/
example : parseChars ⟨false, false⟩ "[1,]".toList false = .error (.unexpected 3 (some ']')) := by
  rw [← parseCharsF_eq]; rfl
example : parseChars ⟨false, false⟩ "\"\\ud800x\"".toList false = .error (.missingLow 2 7 0xd800) := by
  rw [← parseCharsF_eq]; rfl

end JsonVerif.C07
