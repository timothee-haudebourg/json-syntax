import JsonVerif.Lemmas.ObjFront
/-!
# C06 — Objects are insertion-ordered multimaps whose key index never goes stale

Statement: after any sequence of object operations the object's entries are exactly those of a
plain ordered list of key/value pairs subjected to the documented semantics of the same
operations, and each operation's result matches that model. Every key-based query (contains, first
index, all indexes, values, entries, unique lookups) returns what a linear scan of the entries
would.

`Inv o` (Lemmas/ObjInv.lean): bucket keys pairwise distinct; every bucket lists exactly the
positions of its key, ascending, representative first; every key present has a bucket.
-/
namespace JsonVerif.C06
open JsonVerif Obj

theorem C06_init : Inv Obj.empty := inv_empty

/-- **Queries = linear scan.** Under the invariant every key-based query is a function of the
    entry list alone: the positions of the key found by scanning the entries. -/
theorem C06_queries (o : Obj) (h : Inv o) (k : Key) :
    o.indexesOf k = posOf k o.entries ∧
    o.indexOf k = (posOf k o.entries).head? ∧
    o.redundantIndexOf k = (posOf k o.entries)[1]? ∧
    o.containsKey k = !(posOf k o.entries).isEmpty ∧
    o.getEntries k = some (o.entries.filter (fun e => e.1 == k)) :=
  ⟨indexesOf_eq h k, indexOf_eq h k, redundantIndexOf_eq h k, containsKey_eq h k, getEntries_eq h k⟩

/-- `posOf` really is the linear scan: `i` is listed iff entry `i` carries the key; ascending. -/
theorem C06_scan (k : Key) (es : List (Key × JValue)) :
    (∀ i, i ∈ posOf k es ↔ (es[i]?).map (·.1) = some k) ∧ (posOf k es).Pairwise (· < ·) :=
  ⟨fun _ => mem_posOf, posOf_sorted k es⟩

/-- **push / push_entry**: no panic; entries = old entries with the pair appended; the index stays
    exact; the flag is `true` iff the key was absent. -/
theorem C06_push (o : Obj) (h : Inv o) (k : Key) (v : JValue) :
    ∃ o' fresh, o.push k v = some (o', fresh) ∧ Inv o' ∧ o'.entries = o.entries ++ [(k, v)] ∧
      (fresh = true ↔ posOf k o.entries = []) := push_inv h k v

/-- **from_vec / From<Vec<Entry>>**: any entry vector, duplicates included. -/
theorem C06_from_vec (es : List (Key × JValue)) :
    ∃ o, Obj.fromVec es = some o ∧ Inv o ∧ o.entries = es := fromVec_inv es

/-- **extend / FromIterator** -/
theorem C06_extend (o : Obj) (h : Inv o) (l : List (Key × JValue)) :
    ∃ o', o.extend l = some o' ∧ Inv o' ∧ o'.entries = o.entries ++ l := extend_inv l h

/-- **sort**: stable sort by (key, value); the rebuilt index is exact. -/
theorem C06_sort (o : Obj) :
    ∃ o', o.sort = some o' ∧ Inv o' ∧ o'.entries = sortEntries o.entries := sort_inv o

/-- **in-place mutation of a value** (iter_mut / get_mut): the index is unaffected. -/
theorem C06_set_value (o : Obj) (h : Inv o) (i : Nat) (v : JValue) : Inv (o.setValueAt i v) :=
  setValueAt_inv h i v

/-- **push_front / push_entry_front** -/
theorem C06_push_front (o : Obj) (h : Inv o) (k : Key) (v : JValue) :
    ∃ o' fresh, o.pushFront k v = some (o', fresh) ∧ Inv o' ∧ o'.entries = (k, v) :: o.entries ∧
      (fresh = true ↔ posOf k o.entries = []) := pushFront_inv h k v

/-- **remove_at**: any index (in range or not); returns the entry that was there. -/
theorem C06_remove_at (o : Obj) (h : Inv o) (i : Nat) :
    ∃ o', o.removeAt i = some (o', o.entries[i]?) ∧ Inv o' ∧ o'.entries = o.entries.eraseIdx i :=
  removeAt_inv h i

/-- **remove(key)** — the iterator consumed or dropped half-way (its `Drop` finishes the job):
    exactly the entries carrying the key are removed and yielded, in entry order. -/
theorem C06_remove (o : Obj) (h : Inv o) (k : Key) :
    ∃ o', o.remove k = some (o', o.entries.filter (hasKey k)) ∧ Inv o' ∧
      o'.entries = o.entries.filter (fun e => !hasKey k e) := remove_inv h k

/-- **remove_unique(key)**: `Ok(None)` / `Ok(Some(e))` / `Err(Duplicate(first, second))`; all the
    entries carrying the key are gone in every case. -/
theorem C06_remove_unique (o : Obj) (h : Inv o) (k : Key) :
    ∃ o', o.removeUnique k = some (o', match o.entries.filter (hasKey k) with
        | [] => .none
        | [e] => .one e
        | a :: b :: _ => .dup a b) ∧ Inv o' ∧
      o'.entries = o.entries.filter (fun e => !hasKey k e) := removeUnique_inv h k

/-- **insert(key, value)**: a fresh key is appended; otherwise the first entry carrying the key is
    overwritten in place, every later entry carrying it is removed, and the old first entry followed
    by the removed ones (in order) is returned. -/
theorem C06_insert (o : Obj) (h : Inv o) (k : Key) (v : JValue) :
    (posOf k o.entries = [] → ∃ o', o.insert k v = some (o', none) ∧ Inv o' ∧
        o'.entries = o.entries ++ [(k, v)]) ∧
    (∀ p, (posOf k o.entries).head? = some p → ∃ o' old, o.entries[p]? = some old ∧
        o.insert k v = some (o', some (old :: (o.entries.drop (p + 1)).filter (hasKey k))) ∧ Inv o' ∧
        o'.entries = o.entries.take p ++ (k, v) :: (o.entries.drop (p + 1)).filter (fun e => !hasKey k e)) :=
  insert_inv h k v

/-- **insert_front(key, value)**: the new entry becomes the first one (overwriting the first entry
    in place if it already carries the key); every other entry carrying the key is removed and
    returned in entry order. -/
theorem C06_insert_front (o : Obj) (h : Inv o) (k : Key) (v : JValue) :
    ∃ o', o.insertFront k v = some (o', o.entries.filter (hasKey k)) ∧ Inv o' ∧
      o'.entries = (k, v) :: o.entries.filter (fun e => !hasKey k e) := insertFront_inv h k v

/-- **get_or_insert_with / get_mut_or_insert_with**: the first value carrying the key if there is
    one (object unchanged), else the new value, pushed at the end. -/
theorem C06_get_or_insert (o : Obj) (h : Inv o) (k : Key) (v : JValue) :
    ∃ o' r, o.getOrInsertWith k v = some (o', r) ∧ Inv o' ∧
      ((posOf k o.entries = [] ∧ o'.entries = o.entries ++ [(k, v)] ∧ r = v) ∨
       (∃ p e, (posOf k o.entries).head? = some p ∧ o.entries[p]? = some e ∧ o' = o ∧ r = e.2)) :=
  getOrInsertWith_inv h k v

/-- the mutating operations of the public API -/
inductive Op where
  | push (k : Key) (v : JValue) | pushFront (k : Key) (v : JValue) | removeAt (i : Nat)
  | remove (k : Key) | removeUnique (k : Key) | insert (k : Key) (v : JValue)
  | insertFront (k : Key) (v : JValue) | sort | extend (l : List (Key × JValue))
  | setValue (i : Nat) (v : JValue) | getOrInsert (k : Key) (v : JValue)

/-- one operation; `none` = the real code would panic -/
def step (o : Obj) : Op → Option Obj
  | .push k v => (o.push k v).map (·.1)
  | .pushFront k v => (o.pushFront k v).map (·.1)
  | .removeAt i => (o.removeAt i).map (·.1)
  | .remove k => (o.remove k).map (·.1)
  | .removeUnique k => (o.removeUnique k).map (·.1)
  | .insert k v => (o.insert k v).map (·.1)
  | .insertFront k v => (o.insertFront k v).map (·.1)
  | .sort => o.sort
  | .extend l => o.extend l
  | .setValue i v => some (o.setValueAt i v)
  | .getOrInsert k v => (o.getOrInsertWith k v).map (·.1)

def runOps : Obj → List Op → Option Obj
  | o, [] => some o
  | o, op :: ops => (step o op).bind (fun o' => runOps o' ops)

theorem step_of {α : Type} {r : Option (Obj × α)} {o' : Obj} {a : α} (h1 : r = some (o', a))
    (h2 : Inv o') : ∃ o', r.map (·.1) = some o' ∧ Inv o' :=
  ⟨o', by rw [h1]; rfl, h2⟩

theorem step_inv (o : Obj) (h : Inv o) (op : Op) : ∃ o', step o op = some o' ∧ Inv o' := by
  cases op with
  | push k v => obtain ⟨_, _, h1, h2, _⟩ := push_inv h k v; exact step_of h1 h2
  | pushFront k v => obtain ⟨_, _, h1, h2, _⟩ := pushFront_inv h k v; exact step_of h1 h2
  | removeAt i => obtain ⟨_, h1, h2, _⟩ := removeAt_inv h i; exact step_of h1 h2
  | remove k => obtain ⟨_, h1, h2, _⟩ := remove_inv h k; exact step_of h1 h2
  | removeUnique k => obtain ⟨_, h1, h2, _⟩ := removeUnique_inv h k; exact step_of h1 h2
  | insert k v =>
    cases hp : (posOf k o.entries).head? with
    | none =>
      obtain ⟨_, h1, h2, _⟩ := (insert_inv h k v).1 (List.head?_eq_none_iff.mp hp)
      exact step_of h1 h2
    | some p => obtain ⟨_, _, _, h1, h2, _⟩ := (insert_inv h k v).2 p hp; exact step_of h1 h2
  | insertFront k v => obtain ⟨_, h1, h2, _⟩ := insertFront_inv h k v; exact step_of h1 h2
  | sort => obtain ⟨o', h1, h2, _⟩ := sort_inv o; exact ⟨o', h1, h2⟩
  | extend l => obtain ⟨o', h1, h2, _⟩ := extend_inv l h; exact ⟨o', h1, h2⟩
  | setValue i v => exact ⟨_, rfl, setValueAt_inv h i v⟩
  | getOrInsert k v => obtain ⟨_, _, h1, h2, _⟩ := getOrInsertWith_inv h k v; exact step_of h1 h2

/-- **Every reachable object**: starting from the empty object (or from any entry vector), no
    sequence of operations ever panics, and after each of them the key index is exact — so
    (C06_queries) every key-based query of every reachable object is the linear scan. -/
theorem C06_reachable (ops : List Op) (o : Obj) (h : Inv o) : ∃ o', runOps o ops = some o' ∧ Inv o' := by
  induction ops generalizing o with
  | nil => exact ⟨o, rfl, h⟩
  | cons op ops ih =>
    obtain ⟨o1, h1, hi1⟩ := step_inv o h op
    obtain ⟨o', h2, hi'⟩ := ih o1 hi1
    exact ⟨o', by simp [runOps, h1, h2], hi'⟩

/-! Non-vacuity: an object with duplicate keys built by `from_vec`, queried. -/
example : (Obj.fromVec [(['a'], .null), (['b'], .bool true), (['a'], .bool false)]).map
    (fun o => (o.indexesOf ['a'], o.redundantIndexOf ['a'], o.containsKey ['c'])) =
    some ([0, 2], some 2, false) := by decide +kernel

end JsonVerif.C06
