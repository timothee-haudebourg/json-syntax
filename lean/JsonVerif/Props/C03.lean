import JsonVerif.Lemmas.NoPanic
import JsonVerif.Lemmas.Steps
import JsonVerif.Model.Entry
/-!
# C03 — Parsing is total, single-pass and uses stack independent of nesting depth

Statement: for every input (arbitrary bytes, arbitrary character sequences, any options) parsing
returns Ok or Err: it never panics, aborts, loops or overflows the stack, pulls each input
character at most once, and its stack use does not grow with nesting depth. Traversing the
resulting value fragment by fragment is likewise iterative.

Totality has no theorem of its own: `run` (one arm per arm of the Rust loop, the only recursion of
the parser being its tail call) is accepted by Lean, with the measure `2·|rest| + [value pending]`
(`machineMeasure`). What cannot be a theorem about a model — the real stack depth of the compiled
code, aborts inside dependencies — is observed by the harness (depth 10^3 … 2·10^6 in a 256 KiB-stack
thread).
-/
namespace JsonVerif.C03

/-- `2·|input| + 2` iterations of the loop always suffice, each of which consumes input or resolves a
    pending value: linear time, a single pass over the characters. For every option record and every
    character stream, well-formed or failing. -/
theorem C03_steps (o : ParseOptions) (cs : List Char) (bad : Bool) :
    runF o (2 * cs.length + 2) [] none { rest := cs, bad := bad, pos := 0, cm := #[] } =
      some (run o [] none { rest := cs, bad := bad, pos := 0, cm := #[] }) :=
  runF_eq_run _ (by simp [machineMeasure])

/-- The only panic site of the parser, `code_map.get_mut(i).unwrap()` in `end_fragment`, is never
    reached, on any input under any options. -/
theorem C03_no_panic (o : ParseOptions) (cs : List Char) (bad : Bool) :
    parseChars o cs bad ≠ .error .panic :=
  fun h => run_np (stack := []) trivial (parseChars_error.1 h)

theorem C03_no_panic_slice (o : ParseOptions) (b : List UInt8) : parseSlice o b ≠ .error .panic :=
  C03_no_panic o _ _

/-- A successful parse has consumed every character exactly once: the position reached is the
    UTF-8 length of the whole input. -/
theorem C03_single_pass (o : ParseOptions) (cs : List Char) (bad : Bool) (v : JValue) (s' : PS)
    (h : run o [] none { rest := cs, bad := bad, pos := 0, cm := #[] } = .ok (v, s')) :
    s'.rest = [] ∧ s'.pos = utf8Len cs ∧ bad = false := by
  obtain ⟨⟨⟨w, e, q⟩, _, _⟩, hr, hb⟩ := run_ok h
  have hw : cs = w := by simpa [hr] using e
  exact ⟨hr, by simpa [hw] using q, hb⟩

/-! Non-vacuity: deep nesting is handled by the same loop (here depth 8, kernel-evaluated). -/
example : isOk (parseChars ⟨false, false⟩ "[[[[[[[[{\"k\":[]}]]]]]]]]".toList false) = true := by
  rw [← parseCharsF_eq]; decide +kernel

end JsonVerif.C03
