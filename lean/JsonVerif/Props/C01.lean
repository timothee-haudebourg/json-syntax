import JsonVerif.Lemmas.Run
import JsonVerif.Lemmas.Steps
import JsonVerif.Lemmas.Hub
/-!
# C01 — Strict acceptance: a text parses iff it is valid RFC 8259 JSON (valid UTF-8)

Statement: with default (strict) options every parsing entry point accepts an input if and only if
it is exactly one RFC 8259 JSON value surrounded only by JSON whitespace; byte input must in
addition be well-formed UTF-8. All entry points give the same verdict on the same text.

In the model every entry point other than the byte slice feeds the characters of the text to the
same parser and is `parseStr` (Model/Entry.lean); that the byte slice agrees with it on well-formed
input is `C01_slice_eq_str`.
-/
namespace JsonVerif.C01

/-- A character stream that ends in a decoding error is never accepted, whatever precedes the
    error and whatever the options. -/
theorem C01_failing_stream_rejected (o : ParseOptions) (cs : List Char) (r : JValue × List CMEntry) :
    parseChars o cs true ≠ .ok r := by
  intro h
  obtain ⟨_, _, hv, _⟩ := parseChars_ok.1 h
  cases (run_ok hv).2.2

/-- Byte input that is not well-formed UTF-8 is rejected (by every option record). -/
theorem C01_illformed_rejected (o : ParseOptions) (b : List UInt8) (r : JValue × List CMEntry)
    (h : (utf8Dec b).2 = true) : parseSlice o b ≠ .ok r := by
  unfold parseSlice; rw [h]; exact C01_failing_stream_rejected o _ r

/-- Well-formed byte input gets exactly the verdict, value and code map of the decoded text:
    the byte-slice and string entry points agree. -/
theorem C01_slice_eq_str (o : ParseOptions) (b : List UInt8) (h : (utf8Dec b).2 = false) :
    parseSlice o b = parseStr o (utf8Dec b).1 := by
  unfold parseSlice parseStr; rw [h]

/-- Acceptance means the *whole* text was consumed (nothing but the one value and whitespace). -/
theorem C01_accept_consumes_all (o : ParseOptions) (cs : List Char) (v : JValue) (s' : PS)
    (h : run o [] none { rest := cs, bad := false, pos := 0, cm := #[] } = .ok (v, s')) :
    s'.rest = [] := (run_ok h).2.1

/-- **Strict acceptance is exactly RFC 8259** (`GDoc`, Spec/Grammar.lean: `ws value ws`, the ABNF
    transcribed production by production, `\u` escapes read as UTF-16): the string entry point
    accepts a text if and only if it is a JSON-text. -/
theorem C01_accepts_iff_rfc8259 (cs : List Char) :
    (∃ r, parseStr ⟨false, false⟩ cs = .ok r) ↔ ∃ v, GDoc cs v := accepts_iff cs

/-- Under strict options the byte entry point accepts exactly the well-formed UTF-8 encodings of
    JSON-texts. -/
theorem C01_slice_accepts_iff (b : List UInt8) :
    (∃ r, parseSlice ⟨false, false⟩ b = .ok r) ↔ (utf8Dec b).2 = false ∧ ∃ v, GDoc (utf8Dec b).1 v := by
  constructor
  · rintro ⟨r, h⟩
    cases hb : (utf8Dec b).2 with
    | true => exact absurd h (C01_illformed_rejected _ b r hb)
    | false =>
      rw [C01_slice_eq_str _ b hb] at h
      exact ⟨rfl, (accepts_iff _).mp ⟨r, h⟩⟩
  · rintro ⟨hb, hv⟩
    rw [C01_slice_eq_str _ b hb]
    exact (accepts_iff _).mpr hv

/-! Non-vacuity: a text the strict parser accepts; a byte string that is not well-formed UTF-8 (an
    overlong form inside a string) is rejected. -/
example : isOk (parseStr ⟨false, false⟩ " {\"a\" : [1, -0.5e+3, true, null, \"\\u00e9\"]} ".toList) = true := by
  unfold parseStr; rw [← parseCharsF_eq]; decide +kernel
example : isOk (parseSlice ⟨false, false⟩ [0x22, 0xC1, 0x81, 0x22]) = false := by
  unfold parseSlice; rw [← parseCharsF_eq]; decide +kernel

end JsonVerif.C01
