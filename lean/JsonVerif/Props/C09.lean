import JsonVerif.Lemmas.CanonNum
import JsonVerif.Lemmas.PrintOneLine
/-!
# C09 — Canonicalization conforms to RFC 8785 (JSON Canonicalization Scheme)

Statement: for every I-JSON value, canonicalizing and then compact-printing yields exactly the
RFC 8785 canonical form: at every level members are sorted by their keys compared as sequences of
UTF-16 code units, every number is replaced by the ECMAScript shortest round-trip rendering of the
double nearest to its exact decimal value, strings are minimally escaped and there is no
whitespace.

`canon nc` is the code (`nc` = the number canonicalizer of json-number/ryu-js, opaque here).
What is proved is everything except the number rendering itself: see `C09_number_hypothesis`.
-/
namespace JsonVerif.C09
open JsonVerif

/-- NOT PROVED (no formalisation of IEEE-754 round-to-nearest on arbitrary-length decimals nor of
    shortest round-trip digit generation): that the opaque `nc` is `es6 ∘ nearestDouble`. -/
def C09_number_hypothesis (nc es6OfNearest : List Char → List Char) : Prop := ∀ n, nc n = es6OfNearest n

/-- **Ordering**: in the canonical value the members of every object, at every depth, are in
    ascending order of their keys compared as UTF-16 code-unit sequences (ties — duplicate keys,
    outside I-JSON — by value). -/
theorem C09_sorted_partial (nc : List Char → List Char) (v : JValue) : AllSorted (canon nc v) :=
  canon_allSorted nc v

/-- … and each canonical object is a rearrangement of the canonicalized members: nothing is
    dropped, added or duplicated. -/
theorem C09_members_partial (nc : List Char → List Char) (es : List (List Char × JValue)) :
    ∃ l, canon nc (.object es) = .object l ∧ l.Perm (es.map (fun e => (e.1, canon nc e.2))) :=
  ⟨_, rfl, by rw [← canonM_eq_map]; exact List.mergeSort_perm _ _⟩

/-- **Declarative characterisation** (everything of RFC 8785 §3.2 except how a number is rendered,
    which is `nc`): the canonical value is (1) the input with every number replaced by its `nc`
    spelling, up to the order of members at every depth — nothing dropped, added, merged or
    changed otherwise —, (2) with all numbers in canonical spelling, (3) with the members of every
    object sorted by UTF-16 code units; and (4) it is the ONLY value with these three properties.
    (`nc` idempotent: a canonical spelling is its own canonical spelling.) -/
theorem C09_characterisation (nc : List Char → List Char) (hnc : ∀ n, nc (nc n) = nc n) (v : JValue) :
    PermEq (mapNumbers nc v) (canon nc v) ∧ NumsFixed nc (canon nc v) ∧ AllSorted (canon nc v) ∧
    ∀ w, PermEq (mapNumbers nc v) w → NumsFixed nc w → AllSorted w → w = canon nc v :=
  ⟨canon_permEq_mapNumbers nc v, canon_numsFixed nc hnc v, canon_allSorted nc v,
   fun w hp hn hs => canon_unique nc hnc v w hp hs hn⟩

/-- The order really is the UTF-16 one, not code-point order: U+10000 (units D800 DC00) sorts
    before U+E000 although its code point is larger. -/
theorem C09_utf16_witness :
    canonEntryLe ([Char.ofNat 0x10000], .null) ([Char.ofNat 0xE000], .null) = true ∧
    canonEntryLe ([Char.ofNat 0xE000], .null) ([Char.ofNat 0x10000], .null) = false := by
  decide +kernel

/-- The order is a total order on entries (so the canonical member sequence is unique). -/
theorem C09_total_order (a b c : List Char × JValue) :
    ((canonEntryLe a b || canonEntryLe b a) = true) ∧
    (canonEntryLe a b = true → canonEntryLe b c = true → canonEntryLe a c = true) ∧
    (canonEntryLe a b = true → canonEntryLe b a = true → a = b) :=
  ⟨canonEntryLe_total a b, canonEntryLe_trans a b c, canonEntryLe_antisymm a b⟩

/-- Strings minimally escaped and no whitespace: compact printing of the canonical value is the
    reference serializer (C08) applied to it. -/
theorem C09_print (nc : List Char → List Char) (v : JValue) :
    printWith Gen.compactPreset 0 (canon nc v) = some (refSerialize (canon nc v)) :=
  printWith_compact isCompact_compactPreset 0 _

/-! Non-vacuity: the comparison that decides the member order, kernel-evaluated on the keys of
    RFC 8785 §3.2.3's example (expected order: "\r", "1", U+0080, U+00F6, U+20AC, U+1F600, U+FB33). -/
example :
    let ks : List (List Char) := [[Char.ofNat 0xD], ['1'], [Char.ofNat 0x80], [Char.ofNat 0xF6],
      [Char.ofNat 0x20AC], [Char.ofNat 0x1F600], [Char.ofNat 0xFB33]]
    (ks.zip ks.tail).all (fun p => canonEntryLe (p.1, .null) (p.2, .null) && !canonEntryLe (p.2, .null) (p.1, .null)) = true := by
  decide +kernel

end JsonVerif.C09
