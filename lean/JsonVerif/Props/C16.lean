import JsonVerif.Lemmas.DeSer
import JsonVerif.Lemmas.DePerm
/-!
# C16 — serde: typed data round-trips through Value and agrees with serde_json

Statement: for data of serde-derivable Rust types converting to a Value and back yields the
original datum, with finite floats preserved bit-exactly (except that negative zero may come back
as positive zero) and non-finite floats becoming null. The Value produced has the same JSON shape
as serde_json produces for the same datum, and converting serde_json's rendering of the datum into
a Value and deserializing that yields the datum as well.

`SData` = what a datum looks like to a `Serializer` (recorded by the harness from real derive
output); `ser` = model of src/serde/ser.rs.
-/
namespace JsonVerif.C16

/-- **JSON shape** of every data-model construct, as serde_json documents it: unit/none → null;
    some/newtype struct → transparent; unit variant → its name; newtype/tuple/struct variants →
    externally tagged single-entry objects; sequences/tuples → arrays; non-finite floats → null;
    bytes → array of numbers; chars → one-character strings. -/
theorem C16_shape (v : List Char) (d : SData) (x : JValue) (h : ser d = .ok x) :
    ser .unit = .ok .null ∧ ser .none = .ok .null ∧ ser .unitStruct = .ok .null ∧
    ser (.float none) = .ok .null ∧
    ser (.some d) = .ok x ∧ ser (.newtypeStruct d) = .ok x ∧
    ser (.unitVariant v) = .ok (.string v) ∧
    ser (.newtypeVariant v d) = .ok (.object [(v, x)]) ∧
    ser (.tupleVariant v [d, d]) = .ok (.object [(v, .array [x, x])]) ∧
    ser (.seq [d, d]) = .ok (.array [x, x]) ∧
    (∀ c, ser (.char c) = .ok (.string [c])) ∧
    (∀ i, ser (.int i) = .ok (.number (intText i))) ∧ (∀ n, ser (.uint n) = .ok (.number (natText n))) := by
  simp [ser, serL, h]

/-- **Structs** with pairwise distinct field names (guaranteed by rustc), none of them the private
    number token: an object with the fields in declaration order. -/
theorem C16_struct (fields : List (List Char × SData)) (vals : List JValue)
    (hv : fields.map (fun f => ser f.2) = vals.map Except.ok)
    (hnd : (fields.map (·.1)).Nodup) (hnt : numberToken ∉ fields.map (·.1)) :
    ser (.struct fields) = .ok (.object ((fields.map (·.1)).zip vals)) :=
  serFields_typed fields vals [] hv hnd hnt

/-- **Maps** keyed by strings, integers, chars or unit variants: the key is the string form
    (`to_string` of the integer, the char, the variant name); other key types are rejected. -/
theorem C16_map_keys :
    (∀ s, serKey (.str s) = .ok s) ∧ (∀ i, serKey (.int i) = .ok (intText i)) ∧
    (∀ n, serKey (.uint n) = .ok (natText n)) ∧ (∀ c, serKey (.char c) = .ok [c]) ∧
    (∀ v, serKey (.unitVariant v) = .ok v) ∧ (∀ d, serKey (.newtypeStruct d) = serKey d) ∧
    serKey (.bool true) = .error .nonStringKey ∧ serKey .unit = .error .nonStringKey ∧
    serKey (.float none) = .error .nonStringKey ∧ serKey (.seq []) = .error .nonStringKey := by
  simp [serKey]

/-- **Round trip** (the first sentence of the property, on the model of src/serde/ser.rs and
    src/serde/de.rs): for every type descriptor `t` — bool, the eight integer widths, f32/f64, char,
    String, unit, unit struct, Option, newtype struct, Vec, tuple / tuple struct, map keyed by
    strings / integers / chars / unit variants (possibly behind newtypes), struct, externally
    tagged enum with unit / newtype / tuple / struct variants, nested without bound — and every
    datum `d` of that type (`HasTy`), `to_value` succeeds and deserializing its result at `t` gives
    `d` back.

    `HasTy` (Spec/HasTy.lean) spells out the side conditions; among them no `Some(x)` where `x` itself
    serializes to `null` (`Option<()>`, `Option<Option<_>>`: serde_json's own limitation), and floats
    finite and stable under the text conversions of the dependencies (`str::parse::<f64>`, then
    lexical's printer; `env.f64 t = some t`): an assumption about them, not proved. -/
theorem C16_round_trip (env : FEnv) (t : DTy) (d : SData) (h : HasTy env t d) :
    ∃ v, ser d = .ok v ∧ de env t v = .ok d :=
  de_ser env t d h

/-- Integers of every width at every value in range, alone: decimal text out, the same integer in. -/
theorem C16_integers (w : IntW) (i : Int) (h1 : w.lo ≤ i) (h2 : i ≤ w.hi) :
    ∃ n, ser (w.mk i) = .ok (.number n) ∧ intVisit w n = .ok (w.mk i) :=
  int_rt w i h1 h2

/-- Map keys of every supported key type: the key serializer's spelling is read back as the key
    (`str::parse` on `to_string` for integers, one-character strings for chars, the variant name
    for unit variants). -/
theorem C16_map_key_round_trip (k : KTy) (kd : SData) (h : HasKey k kd) :
    ∃ n, serKey kd = .ok n ∧ deKey k n = .ok kd :=
  key_rt k kd h

/-- **Blind to member order** (towards the third sentence of the property: serde_json renders
    structs through a sorted map, so its rendering lists the members in another order): for every
    descriptor without map types, a successful typed deserialization returns the same datum on
    every value equal to the given one up to permutation of object members at any depth (`PermEq`,
    the specification relation of C15). Map types are left out because a map datum is a list in the
    model while a Rust map has no order. -/
theorem C16_member_order_blind (env : FEnv) (t : DTy) (hn : NoMap t) (v w : JValue) (d : SData)
    (hp : PermEq v w) (h : de env t v = .ok d) : de env t w = .ok d :=
  de_perm env t hn v w d hp h

/-- … hence the round trip survives any reordering of the members of what `to_value` built. -/
theorem C16_round_trip_reordered (env : FEnv) (t : DTy) (hn : NoMap t) (d : SData) (h : HasTy env t d) :
    ∃ v, ser d = .ok v ∧ ∀ w, PermEq v w → de env t w = .ok d := by
  obtain ⟨v, hs, hd⟩ := de_ser env t d h
  exact ⟨v, hs, fun w hp => de_perm env t hn v w d hp hd⟩

/-- The side condition on map keys in `HasTy` is what Rust maps guarantee: keys that are pairwise
    distinct data of one key type are spelled differently by the key serializer (`serKey_inj`:
    `to_string` of integers, one-character strings, variant names are injective), so only "no key is
    spelled like the private number token" remains. -/
theorem C16_distinct_keys_suffice (k : KTy) (l : List (SData × SData))
    (hk : ∀ e ∈ l, HasKey k e.1) (hd : (l.map (·.1)).Pairwise (· ≠ ·))
    (hnt : ∀ e ∈ l, serKey e.1 ≠ .ok numberToken) : KeysOk l :=
  keysOk_of_nodup k l hk hd hnt

/-- Non-finite floats are outside `HasTy`: they serialize to `null`, which no float type reads. -/
theorem C16_non_finite (env : FEnv) :
    ser (.float none) = .ok .null ∧ de env .f64 .null = .error .invalidType ∧
    de env (.opt .f64) .null = .ok .none := by
  simp [ser, de]

/-! Non-vacuity of `HasTy`: a struct with an integer, an option, a map keyed by integers and an
    enum-typed field holding a struct variant. -/
example (env : FEnv) (hf : env.f64 ['1', '.', '5'] = some ['1', '.', '5']) :
    HasTy env (.struct [(['a'], .int .i8), (['b'], .opt .bool), (['c'], .f64),
        (['e'], .enum [(['U'], .unit), (['S'], .struct [(['x'], .str)])])])
      (.struct [(['a'], IntW.i8.mk (-5)), (['b'], .some (.bool true)), (['c'], .float (some ['1', '.', '5'])),
        (['e'], .structVariant ['S'] [(['x'], .str ['h', 'i'])])]) := by
  refine ⟨_, rfl, ⟨_, _, rfl, ⟨-5, by decide, by decide, rfl⟩, _, _, rfl,
    Or.inr ⟨_, rfl, ⟨true, rfl⟩, by simp [ser]⟩, _, _, rfl, ⟨_, rfl, hf⟩, _, _, rfl, ?_, rfl⟩, by decide, ?_⟩
  · exact Or.inr ⟨by simp [variantOf], Or.inl ⟨_, rfl, ⟨_, _, rfl, ⟨_, rfl⟩, rfl⟩, by decide⟩⟩
  · decide +kernel

/-! Non-vacuity: a struct with an enum field and a map, kernel-evaluated. -/
example : okEq (ser (.struct [(['a'], .int (-5)), (['b'], .structVariant ['S'] [(['x'], .bool true)]),
    (['c'], .map [(.uint 7, .none), (.char 'k', .seq [.float (some ['1', '.', '5']), .float none])])]))
    (.object [(['a'], .number ['-', '5']), (['b'], .object [(['S'], .object [(['x'], .bool true)])]),
      (['c'], .object [(['7'], .null), (['k'], .array [.number ['1', '.', '5'], .null])])]) = true := by
  decide +kernel

end JsonVerif.C16
